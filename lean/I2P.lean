import I2P.Bytes
import I2P.Data
import I2P.Mapping
import I2P.Tables
import I2P.Kac
import I2P.Structs
import I2P.Time
import I2P.Base
import I2P.NetAddr
import I2P.RouterAddrAcc
import I2P.Verify
import I2P.Crypto16
import I2P.Identity
import I2P.Alias
import I2P.Checked
import I2P.Ctor
import I2P.Spec.Structs
import I2P.Conc
import I2P.Checked2
import I2P.Checked3LS
import I2P.Checked3Meta
import I2P.Fixed
import I2P.Proofs.FixedLemmas
import I2P.Twins
import I2P.Proofs.TwinLemmas
import I2P.FailShape
import I2P.Proofs.FailShapeLemmas
import I2P.History
import I2P.Proofs.HistoryLemmas
import I2P.Proofs.BaseLemmas
import I2P.Proofs.BytesLemmas
import I2P.Proofs.C16Lemmas
import I2P.Proofs.CheckedCore
import I2P.Proofs.CheckedLemmas
import I2P.Proofs.CheckedLemmas2
import I2P.Proofs.CheckedLemmas3LS
import I2P.Proofs.CheckedLemmas3Meta
import I2P.Proofs.CheckedLemmasELS
import I2P.Proofs.CheckedLemmasLS2
import I2P.Proofs.CheckedLemmasMapping
import I2P.Proofs.CtorLemmas
import I2P.Proofs.DataLemmas
import I2P.Proofs.Framed
import I2P.Proofs.GoAttr
import I2P.Proofs.KacLemmas
import I2P.Proofs.MappingLemmas
import I2P.Proofs.NetLemmas
import I2P.Proofs.SpecLemmas
import I2P.Proofs.SpecLemmasMeta
import I2P.Proofs.SpecLemmasRouter
import I2P.Proofs.StructLemmas
import I2P.Proofs.TableLemmas
import I2P.Proofs.TimeLemmas
import I2P.Proofs.VerifyLemmas
import I2P.Props.C01
import I2P.Props.C01S
import I2P.Props.C02
import I2P.Props.C03
import I2P.Props.C03S
import I2P.Props.C04
import I2P.Props.C04b
import I2P.Props.C04c
import I2P.Props.C04d
import I2P.Props.C05
import I2P.Props.C06
import I2P.Props.C07
import I2P.Props.C08
import I2P.Props.C09a
import I2P.Props.C11
import I2P.Props.C12
import I2P.Props.C13
import I2P.Props.C14
import I2P.Props.C15
import I2P.Props.C16
import I2P.Props.C17
import I2P.Props.C19
import I2P.Props.C19b
