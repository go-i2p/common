import I2P.History
namespace I2P.History

theorem run_fields_of_copiesOnly (s : State) (h : List Step) (hc : copiesOnly h = true) :
    (run s h).fields = s.fields := by
  fun_induction copiesOnly h generalizing s
  case case1 => rfl
  case case2 ih => exact ih _ hc
  case case3 ih => exact ih _ hc
  case case4 => cases hc

end I2P.History
