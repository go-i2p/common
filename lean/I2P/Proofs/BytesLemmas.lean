import I2P.Bytes
/-! Byte strings without the model: windows (`take`/`drop` of a list that is cut or extended), why a reader that is
    stable under appended bytes accepts no proper prefix (`no_prefix_of_append'`), and the big-endian coding beyond
    `I2P/Bytes.lean`. -/

namespace I2P

section Window
variable {α : Type _} {d f r : List α} {i n k : Nat}

theorem window_append_le (x : List α) (h : i + n ≤ d.length) :
    ((d ++ x).drop i).take n = (d.drop i).take n := by
  rw [List.drop_append_of_le_length (Nat.le_trans (Nat.le_add_right i n) h),
    List.take_append_of_le_length (by rw [List.length_drop]; exact Nat.le_sub_of_add_le' h)]

theorem window_take (h : i + n ≤ k) : ((d.take k).drop i).take n = (d.drop i).take n := by
  rw [List.drop_take, List.take_take, Nat.min_eq_left (Nat.le_sub_of_add_le' h)]

theorem window_cut (hf : f.length = n) (h : i + k ≤ n) : ((f ++ r).drop i).take k = (f.drop i).take k :=
  window_append_le r (hf ▸ h)

theorem take_cut_add (hf : f.length = n) (k : Nat) : (f ++ r).take (n + k) = f ++ r.take k := by
  rw [List.take_append, List.take_of_length_le (by omega), hf, Nat.add_sub_cancel_left]

theorem cut3 (l : List α) (i j : Nat) : l.take i ++ ((l.drop i).take j ++ l.drop (i + j)) = l := by
  rw [← List.drop_drop, List.take_append_drop, List.take_append_drop]

theorem cut3_append {a b c : List α} {i j : Nat} (ha : a.length = i) (hb : b.length = j) :
    (a ++ (b ++ c)).take i = a ∧ ((a ++ (b ++ c)).drop i).take j = b ∧ (a ++ (b ++ c)).drop (i + j) = c := by
  refine ⟨List.take_left' ha, ?_, ?_⟩
  · rw [List.drop_left' ha, List.take_left' hb]
  · rw [← List.drop_drop, List.drop_left' ha, List.drop_left' hb]

theorem take_sub_rem (b r : List α) : (b ++ r).take ((b ++ r).length - r.length) = b := by
  rw [List.length_append, Nat.add_sub_cancel, List.take_left]

/-- the indexed store of a loop that fills `l` from the left -/
theorem take_set_succ_append {l : List α} {i : Nat} {a : α} {t : List α} (h : i < l.length) :
    (l.set i a).take (i + 1) ++ t = l.take i ++ a :: t := by
  induction l generalizing i with
  | nil => simp at h
  | cons x xs ih =>
    cases i with
    | zero => simp
    | succ i => simp at h; simp [ih h]

/-! windows given as `(u.take hi).drop lo`, the way `Kac.finishKac` cuts the key block -/

theorem take_of_take_eq {u v : List α} {n m : Nat} (h : u.take n = v.take n) (hm : m ≤ n) :
    u.take m = v.take m := by
  rw [← Nat.min_eq_left hm, ← List.take_take, h, List.take_take]

theorem take_append_window (u : List α) {a b : Nat} (h : a ≤ b) : u.take a ++ (u.take b).drop a = u.take b := by
  have e : u.take a = (u.take b).take a := by rw [List.take_take, Nat.min_eq_left h]
  rw [e, List.take_append_drop]

theorem cons_of_take_one {v : List α} {b : α} (h : v.take 1 = [b]) : ∃ t, v = b :: t := by
  cases v with
  | nil => cases h
  | cons a t => cases h; exact ⟨t, rfl⟩

theorem take_one_drop {d : List α} {n : Nat} {a : α} (h : n < d.length) : (d.drop n).take 1 = [d.getD n a] := by
  rw [List.drop_eq_getElem_cons h, List.take_succ_cons, List.take_zero]; simp [h]

end Window

theorem head?_headD {d : Bytes} {b : UInt8} (h : d.head? = some b) : d.headD 0 = b := by
  rw [List.headD_eq_head?_getD, h, Option.getD_some]

/-- `Props.C03.no_prefix_of_append` (hence the prime) for a result of any type `ρ` that holds a remainder `rem` -/
theorem no_prefix_of_append' {ρ} (R : Bytes → Option ρ) (rem : ρ → Bytes)
    (happ : ∀ {w v}, R w = some v → ∀ x, ∃ v', R (w ++ x) = some v' ∧ rem v' = rem v ++ x)
    {w : Bytes} {v : ρ} (h : R w = some v) (hr : rem v = []) {k : Nat} (hk : k < w.length) :
    R (w.take k) = none := by
  cases h' : R (w.take k) with
  | none => rfl
  | some v' =>
    obtain ⟨v'', h2, h3⟩ := happ h' (w.drop k)
    rw [List.take_append_drop, h] at h2
    cases h2
    rw [hr] at h3
    have h4 := (List.append_eq_nil_iff.mp h3.symm).2
    rw [List.drop_eq_nil_iff] at h4
    exact absurd hk (Nat.not_lt.mpr h4)

theorem pow256 (k : Nat) : (256 : Nat) ^ k = 2 ^ (8 * k) := (Nat.pow_mul 2 8 k).symm

theorem pow256_le {k n : Nat} (h : k ≤ n) : (256 : Nat) ^ k ≤ 256 ^ n := Nat.pow_le_pow_right (by decide) h

theorem p8 : (256 : Nat) ^ 8 = 2 ^ 64 := pow256 8

/-- core's `UInt8.toNat_ofNat_of_lt'` with the bound as a literal, which `omega` can discharge -/
theorem ofNat_toNat (n : Nat) (h : n < 256) : (UInt8.ofNat n).toNat = n := UInt8.toNat_ofNat_of_lt' h

theorem beVal_lt_of_le {b : Bytes} {k : Nat} (h : b.length ≤ k) : beVal b < 256 ^ k :=
  Nat.lt_of_lt_of_le (beVal_lt b) (pow256_le h)

theorem beVal_beEnc8 {m : Nat} (h : m < 2 ^ 64) : beVal (beEnc 8 m) = m := beVal_beEnc 8 m (p8 ▸ h)

theorem beVal_singleton (t : UInt8) : beVal [t] = t.toNat := by
  simp [beVal]

theorem beEnc_beVal_take (d : Bytes) (off n : Nat) (h : off + n ≤ d.length) :
    beEnc n (beVal ((d.drop off).take n)) = (d.drop off).take n := by
  have := beEnc_beVal ((d.drop off).take n)
  rwa [List.length_take_of_le (by rw [List.length_drop]; exact Nat.le_sub_of_add_le' h)] at this

theorem hdr_split (r : Bytes) (h : 8 ≤ r.length) :
    beEnc 4 (beVal (r.take 4)) ++ beEnc 2 (beVal ((r.drop 4).take 2)) ++ beEnc 2 (beVal ((r.drop 6).take 2)) = r.take 8 := by
  have b1 := beEnc_beVal_take r 0 4 (by omega)
  have b2 := beEnc_beVal_take r 4 2 (by omega)
  have b3 := beEnc_beVal_take r 6 2 (by omega)
  rw [List.drop_zero] at b1
  rw [b1, b2, b3, ← List.take_add, ← List.take_add]

theorem beEnc_one (n : Nat) : beEnc 1 n = [UInt8.ofNat n] :=
  congrArg (fun c => [c]) (UInt8.ofNat_mod_size (x := n))

theorem count_byte {n : Nat} (h : n < 256) : ∃ c : UInt8, beEnc 1 n = [c] ∧ c.toNat = n :=
  ⟨_, beEnc_one n, ofNat_toNat n h⟩

theorem beEnc_toNat (c : UInt8) : beEnc 1 c.toNat = [c] := by
  have := beEnc_beVal [c]
  rwa [beVal_singleton] at this

theorem beEnc_drop (m k v : Nat) : (beEnc (m + k) v).drop m = beEnc k v := by
  induction k generalizing v with
  | zero => exact List.drop_eq_nil_of_le (by simp)
  | succ k ih =>
    show (beEnc (m + k) (v / 256) ++ [UInt8.ofNat (v % 256)]).drop m = beEnc k (v / 256) ++ [UInt8.ofNat (v % 256)]
    rw [List.drop_append_of_le_length (by simp), ih]

theorem beEnc_drop_sub {n k : Nat} (h : k ≤ n) (v : Nat) : (beEnc n v).drop (n - k) = beEnc k v := by
  have := beEnc_drop (n - k) k v
  rwa [Nat.sub_add_cancel h] at this

end I2P
