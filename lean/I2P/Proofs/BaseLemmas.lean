import I2P.Base
/-! Helper lemmas for C13 (base32/base64).  The alphabets are finite tables: that they have no repetitions
and avoid `=`, 0xFF, CR, LF is evaluated by the kernel, once each; everything about `chr`/`idx` follows
from that for any alphabet.  A quantum is the list of its digits (`dig32`, `dig64`); the bit arithmetic
is done once, in `dig32_lt`/`pack32_dig32` and `dig64_lt`/`pack64_dig64`. -/
namespace I2P.Base

theorem chr_eq_getElem {alpha : List UInt8} {i : Nat} (h : i < alpha.length) : chr alpha i = alpha[i] := by
  simp [chr, List.getD_eq_getElem?_getD, h]

theorem chr_mem {alpha : List UInt8} {i : Nat} (h : i < alpha.length) : chr alpha i ∈ alpha := by
  rw [chr_eq_getElem h]; exact List.getElem_mem h

theorem idx_chr {alpha : List UInt8} (hn : alpha.Nodup) {i : Nat} (h : i < alpha.length) :
    idx alpha (chr alpha i) = some i := by
  rw [idx, if_pos (chr_mem h), chr_eq_getElem h, hn.idxOf_getElem]

theorem idx_some_mem {alpha : List UInt8} {c : UInt8} {v : Nat} (h : idx alpha c = some v) : c ∈ alpha := by
  unfold idx at h
  split at h
  · assumption
  · cases h

theorem idx_none_of_not_mem {alpha : List UInt8} {c : UInt8} (h : c ∉ alpha) : idx alpha c = none := by
  unfold idx; rw [if_neg h]

theorem alpha32_length : alpha32.length = 32 := rfl
theorem alpha64_length : alpha64.length = 64 := rfl
theorem alpha32_nodup : alpha32.Nodup := by decide +kernel
theorem alpha64_nodup : alpha64.Nodup := by decide +kernel
theorem alpha32_not_special : ∀ c ∈ alpha32, c ≠ 61 ∧ c ≠ 255 ∧ c ≠ 10 ∧ c ≠ 13 := by decide +kernel
theorem alpha64_not_special : ∀ c ∈ alpha64, c ≠ 61 ∧ c ≠ 10 ∧ c ≠ 13 := by decide +kernel

theorem idx32_chr32 (i : Nat) (h : i < 32) : idx32 (chr32 i) = some i := idx_chr alpha32_nodup h
theorem idx64_chr64 (i : Nat) (h : i < 64) : idx64 (chr64 i) = some i := idx_chr alpha64_nodup h

theorem stripNL_eq_self (s : Bytes) (h : ∀ c ∈ s, c ≠ 10 ∧ c ≠ 13) : stripNL s = s := by
  unfold stripNL
  rw [List.filter_eq_self]
  intro a ha
  have := h a ha
  simp [this.1, this.2]

theorem mem_stripNL {s : Bytes} {c : UInt8} : c ∈ stripNL s ↔ c ∈ s ∧ c ≠ 10 ∧ c ≠ 13 := by
  unfold stripNL
  simp [List.mem_filter]

theorem pads_chars (padded : Bool) (n : Nat) : ∀ c ∈ pads padded n, c ∈ alpha32 ∨ (padded = true ∧ c = padChar) := by
  intro c hc
  unfold pads at hc
  cases padded
  · simp at hc
  · simp only [if_true, List.mem_replicate] at hc
    exact Or.inr ⟨rfl, hc.2⟩

/-- the eight five-bit digits of the 40-bit group `a b c d e`, as `Encode` computes them; a final group
    of `k < 5` bytes is encoded as the first `⌈8k/5⌉` digits of the group filled with zero bytes -/
def dig32 (a b c d e : UInt8) : List Nat :=
  [a.toNat / 8, a.toNat % 8 * 4 + b.toNat / 64, b.toNat / 2 % 32, b.toNat % 2 * 16 + c.toNat / 16,
   c.toNat % 16 * 2 + d.toNat / 128, d.toNat / 4 % 32, d.toNat % 4 * 8 + e.toNat / 32, e.toNat % 32]

theorem dig32_lt (a b c d e : UInt8) : ∀ v ∈ dig32 a b c d e, v < 32 := by
  have := a.toNat_lt; have := b.toNat_lt; have := c.toNat_lt; have := d.toNat_lt; have := e.toNat_lt
  simp only [dig32, List.forall_mem_cons, List.not_mem_nil, false_imp_iff, implies_true, and_true]
  omega

/-- a digit that straddles two bytes is taken apart again by `/` and `%` -/
theorem straddle {hi lo m : Nat} (h : lo < m) : (hi * m + lo) / m = hi ∧ (hi * m + lo) % m = lo := by
  have hm : 0 < m := by omega
  rw [Nat.mul_comm, Nat.mul_add_div hm, Nat.mul_add_mod, Nat.div_eq_of_lt h, Nat.mod_eq_of_lt h]
  exact ⟨rfl, rfl⟩

theorem ofNat_toNat_eq (a : UInt8) (n : Nat) (h : n = a.toNat) : UInt8.ofNat n = a := by
  subst h; exact UInt8.ofNat_toNat

theorem pack32_dig32 (a b c d e : UInt8) : pack32 (dig32 a b c d e) = [a, b, c, d, e] := by
  have := b.toNat_lt; have := c.toNat_lt; have := d.toNat_lt; have := e.toNat_lt
  simp (disch := omega) only [dig32, pack32, straddle, Nat.div_add_mod', UInt8.ofNat_toNat]
  rw [ofNat_toNat_eq b _ (by omega), ofNat_toNat_eq d _ (by omega)]

/-- `(k * 8 + 4) / 5` is `⌈8k/5⌉`: 2, 4, 5, 7 digits for 1, 2, 3, 4 bytes -/
theorem pack32_take (ds : List Nat) (hds : ds.length = 8) (k : Nat) (h1 : 1 ≤ k) (h4 : k ≤ 4) :
    pack32 (ds.take ((k * 8 + 4) / 5)) = (pack32 ds).take k := by
  match ds, hds with
  | [_, _, _, _, _, _, _, _], _ =>
    match k, h1, h4 with
    | 1, _, _ | 2, _, _ | 3, _, _ | 4, _, _ => rfl

theorem chr32_ne_padByte (padded : Bool) (i : Nat) (h : i < 32) : (chr32 i == padByte padded) = false := by
  have := alpha32_not_special _ (chr_mem h)
  cases padded <;> simp [padByte, padChar, noPadByte, this.1, this.2.1]

theorem dec32Loop_chr (padded : Bool) {i : Nat} (h : i < 32) (rest : Bytes) (acc : List Nat) :
    dec32Loop padded (chr32 i :: rest) acc =
      if acc.length + 1 = 8 then (dec32Loop padded rest []).map (pack32 (acc ++ [i]) ++ ·)
      else dec32Loop padded rest (acc ++ [i]) := by
  rw [dec32Loop]
  simp [chr32_ne_padByte padded i h, idx32_chr32 i h]

theorem dec32Loop_run (padded : Bool) (rest : Bytes) : ∀ (ds acc : List Nat), (∀ v ∈ ds, v < 32) →
    acc.length + ds.length < 8 → dec32Loop padded (ds.map chr32 ++ rest) acc = dec32Loop padded rest (acc ++ ds)
  | [], acc, _, _ => by simp
  | v :: ds, acc, hv, hl => by
    simp only [List.forall_mem_cons, List.length_cons] at hv hl
    rw [List.map_cons, List.cons_append, dec32Loop_chr _ hv.1, if_neg (by omega),
      dec32Loop_run padded rest ds _ hv.2 (by simp; omega), List.append_assoc, List.singleton_append]

theorem dec32Loop_quantum (padded : Bool) (rest : Bytes) (ds : List Nat) (hds : ds.length = 8) (hv : ∀ v ∈ ds, v < 32) :
    dec32Loop padded (ds.map chr32 ++ rest) [] = (dec32Loop padded rest []).map (pack32 ds ++ ·) := by
  have h := List.take_append_getElem (l := ds) (i := 7) (by omega)
  rw [← List.take_of_length_le (Nat.le_of_eq hds) (l := ds), ← h, List.map_append, List.append_assoc,
    dec32Loop_run _ _ _ _ (fun v hv' => hv v (List.mem_of_mem_take hv')) (by simp; omega)]
  exact (dec32Loop_chr _ (hv _ (List.getElem_mem _)) _ _).trans (if_pos (by simp; omega))

theorem dec32Loop_padding (padded : Bool) (rest : Bytes) (acc : List Nat) (h2 : 2 ≤ acc.length) (h8 : rest.length < 8)
    (h7 : 7 ≤ rest.length + acc.length) (hall : ∀ c ∈ rest.take (7 - acc.length), c = padByte padded)
    (hj : acc.length ≠ 1 ∧ acc.length ≠ 3 ∧ acc.length ≠ 6) :
    dec32Loop padded (padByte padded :: rest) acc = some (pack32 acc) := by
  rw [dec32Loop, if_pos (by simp [h2, h8]), if_neg (by omega), if_neg (by simpa using hall), if_neg (by simp; omega)]

theorem dec32Loop_tail (padded : Bool) (acc : List Nat) (k : Nat) (hk : k + acc.length = 8)
    (hj : acc.length = 2 ∨ acc.length = 4 ∨ acc.length = 5 ∨ acc.length = 7) :
    dec32Loop padded (pads padded k) acc = some (pack32 acc) := by
  cases padded
  · have : acc.isEmpty = false := by cases acc <;> simp at hj ⊢
    simp [pads, dec32Loop, this]
  · obtain ⟨k, rfl⟩ : ∃ k', k = k' + 1 := ⟨k - 1, by omega⟩
    exact dec32Loop_padding true _ acc (by omega) (by simp; omega) (by simp; omega)
      (fun c hc => List.eq_of_mem_replicate (List.mem_of_mem_take hc)) (by omega)

theorem dec32Loop_short (padded : Bool) (a b c d e : UInt8) (k : Nat) (h1 : 1 ≤ k) (h4 : k ≤ 4) :
    dec32Loop padded (((dig32 a b c d e).take ((k * 8 + 4) / 5)).map chr32 ++ pads padded (8 - (k * 8 + 4) / 5)) [] =
      some ([a, b, c, d, e].take k) := by
  have hl : ((dig32 a b c d e).take ((k * 8 + 4) / 5)).length = (k * 8 + 4) / 5 := by
    rw [List.length_take]; show min _ 8 = _; omega
  rw [dec32Loop_run _ _ _ _ (fun v hv => dig32_lt a b c d e v (List.mem_of_mem_take hv)) (by rw [hl]; simp; omega),
    List.nil_append, dec32Loop_tail _ _ _ (by rw [hl]; omega) (by rw [hl]; omega),
    pack32_take _ rfl _ h1 h4, pack32_dig32]

theorem dec32Loop_enc32Core (padded : Bool) (x : Bytes) : dec32Loop padded (enc32Core padded x) [] = some x := by
  fun_induction enc32Core padded x
  case case1 => simp [dec32Loop]
  case case2 a => exact dec32Loop_short padded a 0 0 0 0 1 (by decide) (by decide)
  case case3 a b => exact dec32Loop_short padded a b 0 0 0 2 (by decide) (by decide)
  case case4 a b c => exact dec32Loop_short padded a b c 0 0 3 (by decide) (by decide)
  case case5 a b c d => exact dec32Loop_short padded a b c d 0 4 (by decide) (by decide)
  case case6 a b c d e rest ih =>
    show dec32Loop padded ((dig32 a b c d e).map chr32 ++ enc32Core padded rest) [] = _
    rw [dec32Loop_quantum _ _ _ rfl (dig32_lt a b c d e), ih, pack32_dig32]
    rfl

theorem dig32_chars (padded : Bool) (a b c d e : UInt8) (n m : Nat) :
    ∀ x ∈ ((dig32 a b c d e).take n).map chr32 ++ pads padded m, x ∈ alpha32 ∨ (padded = true ∧ x = padChar) := by
  refine List.forall_mem_append.mpr ⟨fun x hx => ?_, pads_chars padded m⟩
  obtain ⟨v, hv, rfl⟩ := List.mem_map.mp hx
  exact Or.inl (chr_mem (dig32_lt a b c d e v (List.mem_of_mem_take hv)))

theorem enc32Core_chars (padded : Bool) (x : Bytes) :
    ∀ c ∈ enc32Core padded x, c ∈ alpha32 ∨ (padded = true ∧ c = padChar) := by
  fun_induction enc32Core padded x
  case case1 => simp
  case case2 a => exact dig32_chars padded a 0 0 0 0 2 6
  case case3 a b => exact dig32_chars padded a b 0 0 0 4 4
  case case4 a b c => exact dig32_chars padded a b c 0 0 5 3
  case case5 a b c d => exact dig32_chars padded a b c d 0 7 1
  case case6 a b c d e rest ih =>
    show ∀ x ∈ (dig32 a b c d e).map chr32 ++ enc32Core padded rest, _
    refine List.forall_mem_append.mpr ⟨fun x hx => ?_, ih⟩
    exact dig32_chars padded a b c d e 8 0 x (by simpa [dig32, pads] using hx)

theorem stripNL_enc32Core (padded : Bool) (x : Bytes) : stripNL (enc32Core padded x) = enc32Core padded x := by
  apply stripNL_eq_self
  intro c hc
  rcases enc32Core_chars padded x c hc with h | ⟨_, rfl⟩
  · have := alpha32_not_special c h; exact ⟨this.2.2.1, this.2.2.2⟩
  · decide

theorem enc32Core_length (padded : Bool) (x : Bytes) :
    (enc32Core padded x).length = if padded then (x.length + 4) / 5 * 8 else (x.length * 8 + 4) / 5 := by
  fun_induction enc32Core padded x
  case case6 ih => cases padded <;> simp at ih ⊢ <;> omega
  all_goals cases padded <;> simp [pads]

/-- the four six-bit digits of the 24-bit group `a b c`; a final group of one or two bytes is encoded as
    the first two or three digits of the group filled with zero bytes -/
def dig64 (a b c : UInt8) : List Nat :=
  [a.toNat / 4, a.toNat % 4 * 16 + b.toNat / 16, b.toNat % 16 * 4 + c.toNat / 64, c.toNat % 64]

theorem dig64_lt (a b c : UInt8) : ∀ v ∈ dig64 a b c, v < 64 := by
  have := a.toNat_lt; have := b.toNat_lt; have := c.toNat_lt
  simp only [dig64, List.forall_mem_cons, List.not_mem_nil, false_imp_iff, implies_true, and_true]
  omega

/-- what `Decode` makes of four digits -/
def pack64 : List Nat → Bytes
  | [p, q, r, s] => [UInt8.ofNat (p * 4 + q / 16), UInt8.ofNat (q % 16 * 16 + r / 4), UInt8.ofNat (r % 4 * 64 + s)]
  | _ => []

theorem pack64_dig64 (a b c : UInt8) : pack64 (dig64 a b c) = [a, b, c] := by
  have := b.toNat_lt; have := c.toNat_lt
  simp (disch := omega) only [dig64, pack64, straddle, Nat.div_add_mod', UInt8.ofNat_toNat]

theorem chr64_ne_padChar (i : Nat) (h : i < 64) : (chr64 i == padChar) = false := by
  simpa [padChar] using (alpha64_not_special _ (chr_mem h)).1

theorem dec64Core_enc64 (x : Bytes) : dec64Core (enc64 x) = some x := by
  fun_induction enc64 x
  case case1 => simp [dec64Core]
  case case2 a =>
    have h := dig64_lt a 0 0; have hp := pack64_dig64 a 0 0
    simp [dig64, pack64] at h hp
    simp [dec64Core, idx64_chr64, h, hp]
  case case3 a b =>
    have h := dig64_lt a b 0; have hp := pack64_dig64 a b 0
    simp [dig64, pack64] at h hp
    simp [dec64Core, idx64_chr64, chr64_ne_padChar, h, hp]
  case case4 a b c rest ih =>
    have h := dig64_lt a b c; have hp := pack64_dig64 a b c
    simp [dig64, pack64] at h hp
    simp [dec64Core, idx64_chr64, chr64_ne_padChar, h, hp, ih]

theorem dig64_chars (a b c : UInt8) (n m : Nat) :
    ∀ x ∈ ((dig64 a b c).take n).map chr64 ++ List.replicate m padChar, x ∈ alpha64 ∨ x = padChar := by
  refine List.forall_mem_append.mpr ⟨fun x hx => ?_, fun x hx => Or.inr (List.eq_of_mem_replicate hx)⟩
  obtain ⟨v, hv, rfl⟩ := List.mem_map.mp hx
  exact Or.inl (chr_mem (dig64_lt a b c v (List.mem_of_mem_take hv)))

theorem enc64_chars (x : Bytes) : ∀ c ∈ enc64 x, c ∈ alpha64 ∨ c = padChar := by
  fun_induction enc64 x
  case case1 => simp
  case case2 a => exact dig64_chars a 0 0 2 2
  case case3 a b => exact dig64_chars a b 0 3 1
  case case4 a b c rest ih =>
    show ∀ x ∈ (dig64 a b c).map chr64 ++ enc64 rest, _
    exact List.forall_mem_append.mpr ⟨fun x hx => dig64_chars a b c 4 0 x (by simpa [dig64] using hx), ih⟩

theorem stripNL_enc64 (x : Bytes) : stripNL (enc64 x) = enc64 x := by
  apply stripNL_eq_self
  intro c hc
  rcases enc64_chars x c hc with h | rfl
  · exact (alpha64_not_special c h).2
  · decide

theorem enc64_length (x : Bytes) : (enc64 x).length = encodedLen64 x.length := by
  fun_induction enc64 x
  case case4 ih => simp [encodedLen64] at ih ⊢; omega
  all_goals simp [encodedLen64]

/-- false without the hypothesis on `p`: what follows a padding run is ignored (D26) -/
theorem dec32Loop_reject (padded : Bool) (c : UInt8) (q : Bytes) (hc : c ≠ padByte padded) (hi : idx32 c = none) :
    ∀ (p : Bytes) (acc : List Nat), (∀ x ∈ p, x ≠ padByte padded) → dec32Loop padded (p ++ c :: q) acc = none
  | [], acc, _ => by
    rw [List.nil_append, dec32Loop]
    simp [hc, hi]
  | x :: p, acc, hp => by
    have hx : (x == padByte padded) = false := by simpa using hp x (by simp)
    have hp' : ∀ y ∈ p, y ≠ padByte padded := fun y hy => hp y (by simp [hy])
    rw [List.cons_append, dec32Loop]
    simp only [hx, Bool.false_and, Bool.false_eq_true, if_false]
    split
    · rfl
    · split
      · rw [dec32Loop_reject padded c q hc hi p [] hp']; rfl
      · exact dec32Loop_reject padded c q hc hi p _ hp'

theorem stripNL_append_cons (p q : Bytes) (c : UInt8) (h10 : c ≠ 10) (h13 : c ≠ 13) :
    stripNL (p ++ c :: q) = stripNL p ++ c :: stripNL q := by
  unfold stripNL
  rw [List.filter_append, List.filter_cons]
  simp [h10, h13]

theorem dec32_foreign (padded : Bool) (p q : Bytes) (c : UInt8) (hc : c ∉ alpha32 ∧ c ≠ 61 ∧ c ≠ 10 ∧ c ≠ 13)
    (hpad : c ≠ padByte padded) (hp : ∀ x ∈ p, x ≠ padByte padded) :
    dec32Loop padded (stripNL (p ++ c :: q)) [] = none := by
  rw [stripNL_append_cons p q c hc.2.2.1 hc.2.2.2]
  exact dec32Loop_reject padded c _ hpad (idx_none_of_not_mem hc.1) _ _ fun x hx => hp x (mem_stripNL.mp hx).1

/-- number of `=` the padded encoder appends -/
def padLen32 (n : Nat) : Nat := match n % 5 with | 1 => 6 | 2 => 4 | 3 => 3 | 4 => 1 | _ => 0

theorem enc32_eq_nopad_append (x : Bytes) :
    enc32Core true x = enc32Core false x ++ List.replicate (padLen32 x.length) padChar := by
  fun_induction enc32Core true x
  case case6 a b c d e rest ih =>
    have : padLen32 (rest.length + 1 + 1 + 1 + 1 + 1) = padLen32 rest.length := by
      simp only [padLen32, Nat.add_assoc, Nat.add_mod_right]
    simp only [enc32Core, List.length_cons, this, ih, List.cons_append]
  all_goals rfl

theorem padLen32_lt (n : Nat) : padLen32 n < 8 := by
  unfold padLen32; split <;> omega

theorem enc32NoPad_mem (x : Bytes) : ∀ c ∈ enc32Core false x, c ∈ alpha32 := by
  intro c hc
  rcases enc32Core_chars false x c hc with h | ⟨h, _⟩
  · exact h
  · cases h

theorem span_body {body : Bytes} (hb : ∀ c ∈ body, c ∈ alpha32) (k : Nat) :
    (body ++ List.replicate k padChar).takeWhile (· != padChar) = body ∧
    (body ++ List.replicate k padChar).dropWhile (· != padChar) = List.replicate k padChar := by
  have hne : ∀ c ∈ body, (c != padChar) = true := fun c hc => by simpa [padChar] using (alpha32_not_special c (hb c hc)).1
  rw [List.takeWhile_append_of_pos hne, List.dropWhile_append_of_pos hne, List.takeWhile_replicate, List.dropWhile_replicate]
  simp

theorem valid32_iff (padded : Bool) (s : Bytes) : valid32 padded s = true ↔
    ∃ body k, stripNL s = body ++ List.replicate k padChar ∧ (∀ c ∈ body, c ∈ alpha32) ∧
      (body.length % 8 ≠ 1 ∧ body.length % 8 ≠ 3 ∧ body.length % 8 ≠ 6) ∧
      if padded then k < 8 ∧ (body.length + k) % 8 = 0 else k = 0 := by
  constructor
  · intro h
    simp only [valid32, Bool.and_eq_true, List.all_eq_true, decide_eq_true_eq, bne_iff_ne, ne_eq] at h
    obtain ⟨⟨hb, ⟨h1, h3⟩, h6⟩, ht⟩ := h
    have hsplit := List.takeWhile_append_dropWhile (p := (· != padChar)) (l := stripNL s)
    generalize (stripNL s).takeWhile (· != padChar) = body at hb h1 h3 h6 hsplit
    generalize (stripNL s).dropWhile (· != padChar) = tail at ht hsplit
    cases padded
    · rw [List.isEmpty_iff.mp ht] at hsplit
      exact ⟨body, 0, hsplit.symm, hb, ⟨h1, h3, h6⟩, rfl⟩
    · simp only [if_true, Bool.and_eq_true, List.all_eq_true, beq_iff_eq, decide_eq_true_eq] at ht
      refine ⟨body, tail.length, ?_, hb, ⟨h1, h3, h6⟩, ht.2, ?_⟩
      · rw [← List.eq_replicate_iff.mpr ⟨rfl, ht.1.1⟩, hsplit]
      · rw [← List.length_append, hsplit]; exact ht.1.2
  · rintro ⟨body, k, hs, hb, ⟨h1, h3, h6⟩, hk⟩
    obtain ⟨ht, hd⟩ := span_body hb k
    simp only [valid32, hs, ht, hd, Bool.and_eq_true, List.all_eq_true, decide_eq_true_eq, bne_iff_ne, ne_eq]
    refine ⟨⟨by simpa using hb, ⟨h1, h3⟩, h6⟩, ?_⟩
    cases padded
    · simp only [Bool.false_eq_true, if_false] at hk ⊢; simp [hk]
    · simp only [if_true] at hk ⊢; simp [hk]

theorem valid32_enc32 (x : Bytes) : valid32 true (enc32 x) = true := by
  have hb := enc32Core_length false x
  have hp := enc32Core_length true x
  rw [enc32_eq_nopad_append, List.length_append, List.length_replicate] at hp
  simp only [Bool.false_eq_true, if_false, if_true] at hb hp
  refine (valid32_iff true _).mpr
    ⟨enc32Core false x, padLen32 x.length, ?_, enc32NoPad_mem x, by omega, padLen32_lt _, by omega⟩
  rw [enc32, stripNL_enc32Core, enc32_eq_nopad_append]

theorem valid32_enc32NoPad (x : Bytes) : valid32 false (enc32NoPad x) = true := by
  have hb := enc32Core_length false x
  simp only [Bool.false_eq_true, if_false] at hb
  refine (valid32_iff false _).mpr ⟨enc32Core false x, 0, ?_, enc32NoPad_mem x, by omega, rfl⟩
  rw [enc32NoPad, stripNL_enc32Core, List.replicate_zero, List.append_nil]

theorem valid32_foreign (padded : Bool) (s : Bytes) (c : UInt8) (hc : c ∈ s)
    (hf : c ∉ alpha32 ∧ c ≠ 61 ∧ c ≠ 10 ∧ c ≠ 13) : valid32 padded s = false := by
  refine Bool.eq_false_iff.mpr fun h => ?_
  obtain ⟨body, k, hs, hb, -⟩ := (valid32_iff padded s).mp h
  have hct : c ∈ stripNL s := mem_stripNL.mpr ⟨hc, hf.2.2.1, hf.2.2.2⟩
  rw [hs, List.mem_append] at hct
  exact hct.elim (fun h => hf.1 (hb c h)) fun h => hf.2.1 (List.eq_of_mem_replicate h)

theorem dec64Core_shape (t r : Bytes) (h : dec64Core t = some r) :
    ∃ body k, t = body ++ List.replicate k padChar ∧ (∀ c ∈ body, c ∈ alpha64) ∧ k ≤ 2 ∧ t.length % 4 = 0 := by
  fun_induction dec64Core t generalizing r
  case case1 => exact ⟨[], 0, by simp⟩
  case case2 x y z w rest hw hz _ _ hy hx =>
    simp only [Bool.and_eq_true, List.isEmpty_iff, beq_iff_eq] at hw hz
    obtain ⟨rfl, rfl⟩ := hw; subst hz
    exact ⟨[x, y], 2, rfl, by simp [idx_some_mem hx, idx_some_mem hy], by omega, by simp⟩
  case case4 x y z w rest hw _ _ _ _ hz hy hx =>
    simp only [Bool.and_eq_true, List.isEmpty_iff, beq_iff_eq] at hw
    obtain ⟨rfl, rfl⟩ := hw
    exact ⟨[x, y, z], 1, rfl, by simp [idx_some_mem hx, idx_some_mem hy, idx_some_mem hz], by omega, by simp⟩
  case case6 x y z w rest _ _ _ _ _ _ hr hw hz hy hx ih =>
    obtain ⟨body, k, hbk, hb, hk, hl⟩ := ih _ hr
    exact ⟨x :: y :: z :: w :: body, k, by simp [hbk],
      by simp [idx_some_mem hx, idx_some_mem hy, idx_some_mem hz, idx_some_mem hw]; exact hb, hk, by simp; omega⟩
  all_goals cases h

/-- the shape every `…Safe` wrapper unfolds to -/
theorem safe_shape {β : Type} (max n : Nat) (r : β) :
    ((∃ e, (match sizeGuard max n with | some e => Except.error e | none => Except.ok r) = Except.error e) ↔
        n = 0 ∨ n > max) ∧
      (0 < n → n ≤ max → (match sizeGuard max n with | some e => Except.error e | none => Except.ok r) = Except.ok r) := by
  unfold sizeGuard
  by_cases h0 : n = 0
  · simp [h0]
  · by_cases hm : n > max
    · simp [h0, hm]
    · simp [h0, hm]

end I2P.Base
