import I2P.Verify
import I2P.Proofs.StructLemmas
/-! Lemmas behind property C05: the field-level parsers of `I2P/Verify.lean` against the byte-level readers
    (`parseX_spec`: what the definition says of an accepted `p`; `parseX_raw`: where its fields lie in the raw input),
    and what a successful `verifyX` implies (`verifyX_sound`). -/

namespace I2P.Verify
open I2P.Spec I2P.Kac I2P.Structs

theorem constructKey_of_size {t : Nat} {key : Bytes} (hl : key.length = sigPubSize t) :
    constructKey t key = if sigConstructible t then some key else none := by
  unfold constructKey
  split
  -- with the length a literal the size guards are decided, and the window taken is the whole key
  · rw [show key.length = 128 from hl, List.take_of_length_le (i := 128) (Nat.le_of_eq hl)]; rfl
  · rw [show key.length = 64 from hl, List.take_of_length_le (i := 64) (Nat.le_of_eq hl)]; rfl
  · rw [show key.length = 96 from hl, List.take_of_length_le (i := 96) (Nat.le_of_eq hl)]; rfl
  · rw [show key.length = 32 from hl]; rfl
  · rw [show key.length = 32 from hl]; rfl
  · rw [show key.length = 32 from hl]; rfl
  · refine (if_neg fun hc => ?_).symm
    rcases (sigConstructible_iff t).1 hc with h | h | h | h | h | h <;> contradiction

/-- how `verifyDest` and `verifyELS` use a constructed key -/
theorem constructKey_match_true {t : Nat} {key : Bytes} {X : Bytes → Bool} (hl : key.length = sigPubSize t)
    (h : (match constructKey t key with | none => false | some k => X k) = true) :
    sigConstructible t = true ∧ X key = true := by
  rw [constructKey_of_size hl] at h
  cases hc : sigConstructible t <;> rw [hc] at h
  · cases h
  · exact ⟨rfl, h⟩

theorem offAlgOf_some {t a : Nat} (h : offAlgOf t = some a) :
    (t = 7 ∧ a = 7) ∨ (t = 11 ∧ a = 7) ∨ (t = 8 ∧ a = 8) := by
  unfold offAlgOf at h
  split at h <;> simp_all

theorem guard_true {c : Prop} [Decidable c] {x : Bool} : (if c then false else x) = true ↔ ¬ c ∧ x = true := by
  by_cases h : c <;> simp [h]

theorem verifyOffline_sound {C : SigScheme} {o : OffBlock} {key : Bytes} (h : verifyOffline C o key = true) :
    beVal o.expires ≠ 0 ∧ sigPubSize o.ttype ≠ 0 ∧ o.tkey.length = sigPubSize o.ttype ∧
    o.sig.length = sigLen o.destType ∧ key.length = 32 ∧
    ∃ a, offAlgOf o.destType = some a ∧ C.verify a key o.signedData o.sig = true := by
  unfold verifyOffline at h
  simp only [guard_true, ne_eq, Decidable.not_not] at h
  obtain ⟨h1, h2, h3, _, h5, h⟩ := h
  cases ha : offAlgOf o.destType with
  | none => rw [ha] at h; cases h
  | some a =>
    rw [ha] at h
    obtain ⟨h6, h⟩ := guard_true.mp h
    exact ⟨h1, h2, h3, h5, Decidable.not_not.mp h6, a, rfl, h⟩

/-- the same chain of exits: `Option.any` maps `none` to `false` and commutes with every `if` -/
theorem verifyOffline_eq_obl (C : SigScheme) (o : OffBlock) (key : Bytes) :
    verifyOffline C o key = (oblOffline o key).any C.holds := by
  unfold verifyOffline oblOffline
  simp only [apply_ite (Option.any C.holds), Option.any_none]
  cases offAlgOf o.destType with
  | none => rfl
  | some a => simp only [apply_ite (Option.any C.holds), Option.any_none]; rfl

theorem offFields_layout {d : Bytes} {t : Nat} {ob r : Bytes} {st : Nat}
    (h : readOffSig d t = some (ob, r, st)) :
    (offFields ob t).ttype = st ∧ (offFields ob t).destType = t ∧
    (offFields ob t).expires = d.take 4 ∧ (offFields ob t).expires.length = 4 ∧
    (offFields ob t).tkey.length = sigPubSize st ∧
    (offFields ob t).sig = (d.drop (6 + sigPubSize st)).take (sigLen t) ∧ (offFields ob t).sig.length = sigLen t ∧
    (offFields ob t).signedData = d.take (6 + sigPubSize st) := by
  obtain ⟨h6, hst, hks, hss, hlen, hob, _⟩ := readOffSig_some.mp h
  have e42 : (ob.drop 4).take 2 = (d.drop 4).take 2 := by rw [hob]; exact window_take (by omega)
  have hrec : offFields ob t = ⟨d.take 4, st, (d.drop 6).take (sigPubSize st),
      (d.drop (6 + sigPubSize st)).take (sigLen t), t⟩ := by
    unfold offFields
    dsimp only
    rw [e42, ← hst, hob, List.take_take, Nat.min_eq_left (by omega), window_take (Nat.le_add_right _ _),
      window_take (Nat.le_refl _)]
  rw [hrec]
  refine ⟨rfl, rfl, rfl, List.length_take_of_le (by omega), List.length_take_of_le ?_, rfl,
    List.length_take_of_le ?_, ?_⟩
  · rw [List.length_drop]; exact Nat.le_sub_of_add_le' (Nat.le_trans (Nat.le_add_right _ _) hlen)
  · rw [List.length_drop]; exact Nat.le_sub_of_add_le' hlen
  · show d.take 4 ++ beEnc 2 st ++ (d.drop 6).take (sigPubSize st) = _
    rw [hst, beEnc_beVal_take d 4 2 (by omega), ← List.take_add, ← List.take_add]

theorem offPart_some {flags : Nat} {r : Bytes} {t : Nat} {off : Option OffBlock} {sigT : Nat} :
    offPart flags r t = some (off, sigT) ↔
      ∃ ob r2, offStage flags r t = some (ob, r2, sigT) ∧
        off = if flags % 2 = 1 then some (offFields ob t) else none := by
  unfold offPart offStage
  by_cases hf : flags % 2 = 1
  · simp only [if_pos hf]
    cases readOffSig r t with
    | none => exact ⟨nofun, fun ⟨_, _, h, _⟩ => nomatch h⟩
    | some q =>
      obtain ⟨ob, r2, st⟩ := q
      exact ⟨fun h => by cases h; exact ⟨ob, r2, rfl, rfl⟩, fun ⟨_, _, h, e⟩ => by cases h; rw [e]⟩
  · simp only [if_neg hf]
    exact ⟨fun h => by cases h; exact ⟨_, _, rfl, rfl⟩, fun ⟨_, _, h, e⟩ => by cases h; rw [e]⟩

theorem signed_raw {w : Bytes} {p : Parsed} {n : Nat} (hcat : p.bytes ++ p.rem = w)
    (hsig : p.sig = p.bytes.drop (p.bytes.length - n)) (hle : n ≤ p.bytes.length) (pfx : Bytes) :
    w.take (w.length - p.rem.length) = p.bytes ∧ p.sig.length = n ∧
    signedMsg pfx p = pfx ++ p.bytes.take (p.bytes.length - n) := by
  have hsl : p.sig.length = n := by rw [hsig, List.length_drop]; exact Nat.sub_sub_self hle
  refine ⟨?_, hsl, by rw [signedMsg, hsl]⟩
  rw [← hcat]
  exact take_sub_rem _ _

theorem parseDestSigned_spec {read : Bytes → P} {d : Bytes} {p : Parsed} (h : parseDestSigned read d = some p) :
    ∃ k r0, read d = some (p.bytes, p.rem) ∧ readDestination d = some (k, r0) ∧
      offPart (beVal ((r0.drop 6).take 2)) (r0.drop 8) k.kc.spk = some (p.off, p.sigType) ∧
      p.idType = k.kc.spk ∧ p.idKey = k.sig ∧
      p.flagsOffline = decide (beVal ((r0.drop 6).take 2) % 2 = 1) ∧
      p.sig = p.bytes.drop (p.bytes.length - sigLen p.sigType) := by
  obtain ⟨b, rem, hr, h⟩ := pair_match_some.mp h
  obtain ⟨k, r0, hd, h⟩ := kac_match_some.mp h
  dsimp only at h
  split at h
  · cases h
  next off sigT ho =>
    cases h
    exact ⟨k, r0, hr, hd, ho, rfl, rfl, rfl, rfl⟩

/-- a framed reader built on the common header whose accepted bytes end with the signature -/
structure HdrSigned (read : Bytes → P) : Prop where
  framed : Framed read
  hdr : ∀ {d b rem}, read d = some (b, rem) →
    ∃ hb r sigT, Hdr d hb r sigT ∧ sigLen sigT ≠ 0 ∧ sigLen sigT ≤ b.length

theorem readLeaseSet2_hdrSigned : HdrSigned readLeaseSet2 where
  framed := readLeaseSet2_framed
  hdr h := by
    obtain ⟨_, hb, r, sigT, hh, ht⟩ := readLeaseSet2_some.mp h
    obtain ⟨_, _, _, _, _, _, _, sb, _, _, _, _, _, _, hs, rfl⟩ := ht
    exact ⟨hb, r, sigT, hh, readSig_suffix _ hs⟩

theorem readMeta_hdrSigned : HdrSigned readMeta where
  framed := readMeta_framed
  hdr h := by
    obtain ⟨_, hb, r, sigT, hh, ht⟩ := readMeta_some.mp h
    obtain ⟨_, _, _, _, sb, _, _, _, _, hs, rfl⟩ := ht
    exact ⟨hb, r, sigT, hh, readSig_suffix _ hs⟩

theorem parseDestSigned_complete {read : Bytes → P} (hread : HdrSigned read) {d b rem : Bytes}
    (h : read d = some (b, rem)) : ∃ p, parseDestSigned read d = some p ∧ p.bytes = b ∧ p.rem = rem := by
  obtain ⟨hb, r, sigT, ⟨k, r0, db, ob, r2, optb, hd, _, _, ho, _, _⟩, _⟩ := hread.hdr h
  unfold parseDestSigned
  simp only [h, hd, offPart_some.mpr ⟨ob, r2, ho, rfl⟩]
  exact ⟨_, rfl, rfl, rfl⟩

theorem offMatch_true {f : Bool} {off : Option OffBlock} {X : OffBlock → Bool} {Y : Bool}
    (h : (match f, off with | true, some o => X o | _, _ => Y) = true) :
    (f = false → Y = true) ∧ ∀ o, f = true → off = some o → X o = true := by
  split at h
  · exact ⟨nofun, fun o _ ho => by cases ho; exact h⟩
  · next hno => exact ⟨fun _ => h, fun o hf ho => (hno o hf ho).elim⟩

/-- the offline branch common to `verifyDest` and `verifyELS` -/
theorem transient_sound {C : SigScheme} {o : OffBlock} {idKey m s : Bytes}
    (h : (if (!verifyOffline C o idKey) = true then false else
          match constructKey o.ttype o.tkey with
          | none => false
          | some k => C.verify (algOf o.ttype) k m s) = true) :
    verifyOffline C o idKey = true ∧ C.verify (algOf o.ttype) o.tkey m s = true := by
  obtain ⟨hv, h⟩ := guard_true.mp h
  have hv : verifyOffline C o idKey = true := by simpa using hv
  exact ⟨hv, (constructKey_match_true (verifyOffline_sound hv).2.2.1 h).2⟩

/-- that branch against the one of `oblDest` and `oblELS` -/
theorem transient_eq_obl (C : SigScheme) (o : OffBlock) (idKey m s : Bytes) :
    (if (!verifyOffline C o idKey) = true then false else
      match constructKey o.ttype o.tkey with
      | none => false
      | some k => C.verify (algOf o.ttype) k m s) =
    C.all (match oblOffline o idKey with
      | none => none
      | some ob =>
        match constructKey o.ttype o.tkey with
        | none => none
        | some k => some [ob, ⟨algOf o.ttype, k, m, s⟩]) := by
  rw [verifyOffline_eq_obl]
  cases oblOffline o idKey with
  | none => rfl
  | some b =>
    cases constructKey o.ttype o.tkey with
    | none => simp [SigScheme.all]
    | some k => simp [SigScheme.all, SigScheme.holds]

theorem verifyDest_sound {pfx : Bytes} {C : SigScheme} {p : Parsed} (h : verifyDest pfx C p = true) :
    (p.flagsOffline = false →
      sigConstructible p.idType = true ∧ C.verify (algOf p.idType) p.idKey (signedMsg pfx p) p.sig = true) ∧
    (∀ o, p.flagsOffline = true → p.off = some o →
      verifyOffline C o p.idKey = true ∧ C.verify (algOf o.ttype) o.tkey (signedMsg pfx p) p.sig = true) := by
  obtain ⟨hplain, hoff⟩ := offMatch_true (guard_true.mp h).2
  exact ⟨fun hf => Bool.and_eq_true _ _ ▸ hplain hf, fun o hf ho => transient_sound (hoff o hf ho)⟩

theorem verifyDest_eq_obl (pfx : Bytes) (C : SigScheme) (p : Parsed) :
    verifyDest pfx C p = C.all (oblDest pfx p) := by
  unfold verifyDest oblDest
  split
  · rfl
  split
  · exact transient_eq_obl ..
  · cases sigConstructible p.idType <;> simp [SigScheme.all, SigScheme.holds]

/-- `offPart_sound` says what the last conjunct means for the fields -/
theorem parseDestSigned_raw {read : Bytes → P} (hread : HdrSigned read)
    {w : Bytes} {p : Parsed} (hp : parseDestSigned read w = some p) :
    p.bytes ++ p.rem = w ∧ sigLen p.sigType ≠ 0 ∧ sigLen p.sigType ≤ p.bytes.length ∧
    p.sig = p.bytes.drop (p.bytes.length - sigLen p.sigType) ∧
    p.idKey = (w.take 384).drop (384 - sigPubSize p.idType) ∧ p.idType ≠ 8 ∧
    p.flagsOffline = decide (beVal ((w.drop (idLen w + 6)).take 2) % 2 = 1) ∧
    offPart (beVal ((w.drop (idLen w + 6)).take 2)) (w.drop (idLen w + 8)) p.idType = some (p.off, p.sigType) := by
  obtain ⟨k, r0, hr, hd, ho, hit, hik, hfl, hsig⟩ := parseDestSigned_spec hp
  -- the signature the reader found has the type the parser computed
  obtain ⟨_, _, sigT, ⟨k', r0', _, ob', r2', _, hd', _, _, ho', _, _⟩, hne, hle⟩ := hread.hdr hr
  cases hd.symm.trans hd'
  obtain ⟨ob, r2, ho1, _⟩ := offPart_some.mp ho
  cases ho1.symm.trans ho'
  obtain ⟨hk, hall⟩ := readDestination_iff.mp hd
  have a := readKac_iff.mp hk
  cases (a.rem : r0 = w.drop (idLen w))
  rw [List.drop_drop] at hfl
  rw [List.drop_drop, List.drop_drop, ← hit] at ho
  rw [← hit] at hall
  exact ⟨hread.framed.consumed' hr, hne, hle, hsig, hit ▸ hik ▸ a.sig, destAllowed_ne8 hall, hfl, ho⟩

theorem parseELS_spec {d : Bytes} {p : Parsed} (h : parseELS d = some p) :
    readELS d = some (p.bytes, p.rem) ∧ p.idType = beVal (d.take 2) ∧
    p.idKey = (d.drop 2).take (sigPubSize p.idType) ∧
    offPart (beVal ((d.drop (2 + sigPubSize p.idType + 6)).take 2)) (d.drop (2 + sigPubSize p.idType + 8))
      p.idType = some (p.off, p.sigType) ∧
    p.flagsOffline = decide (beVal ((d.drop (2 + sigPubSize p.idType + 6)).take 2) % 2 = 1) ∧
    p.sig = p.bytes.drop (p.bytes.length - sigLen p.sigType) := by
  obtain ⟨b, rem, hr, h⟩ := pair_match_some.mp h
  dsimp only at h
  split at h
  · cases h
  next off sigT ho =>
    cases h
    rw [List.drop_drop, List.drop_drop] at ho
    exact ⟨hr, rfl, rfl, ho, by rw [List.drop_drop], rfl⟩

theorem parseELS_raw {w : Bytes} {p : Parsed} (hp : parseELS w = some p) :
    p.bytes ++ p.rem = w ∧ sigLen p.sigType ≠ 0 ∧ sigLen p.sigType ≤ p.bytes.length ∧
    p.idKey.length = sigPubSize p.idType := by
  obtain ⟨hr, hit, hik, ho, _, _⟩ := parseELS_spec hp
  obtain ⟨_, _, hlen, _, _, _, ob', r2', sigT, sb, ho', _, _, _, hs, hb⟩ := readELS_some.mp hr
  -- the signature the reader found has the type the parser computed
  obtain ⟨ob, r2, ho1, _⟩ := offPart_some.mp ho
  rw [← hit, List.drop_drop, List.drop_drop] at ho'
  cases ho1.symm.trans ho'
  obtain ⟨hne, hle⟩ := readSig_suffix _ hs
  rw [← hb] at hle
  rw [← hit] at hlen
  refine ⟨readELS_framed.consumed' hr, hne, hle, ?_⟩
  rw [hik]
  exact List.length_take_of_le (by rw [List.length_drop]; exact Nat.le_sub_of_add_le' hlen)

theorem verifyELS_sound {C : SigScheme} {p : Parsed} (hkl : p.idKey.length = sigPubSize p.idType)
    (h : verifyELS C p = true) :
    (p.flagsOffline = false →
      sigConstructible p.idType = true ∧ C.verify (algOf p.idType) p.idKey (signedMsg [5] p) p.sig = true) ∧
    (∀ o, p.flagsOffline = true → p.off = some o →
      verifyOffline C o p.idKey = true ∧ C.verify (algOf o.ttype) o.tkey (signedMsg [5] p) p.sig = true) := by
  obtain ⟨hplain, hoff⟩ := offMatch_true h
  exact ⟨fun hf => constructKey_match_true (key := p.idKey) hkl (hplain hf), fun o hf ho => transient_sound (hoff o hf ho)⟩

theorem parseLS_spec {d : Bytes} {p : Parsed} (h : parseLS d = some p) :
    ∃ c rc k r', readLeaseSet d = some (p.bytes, p.rem) ∧ readCert (d.drop 384) = some (c, rc) ∧
      readDestination (d.take (387 + c.declared)) = some (k, r') ∧
      p.idType = k.kc.spk ∧ p.idKey = k.sig ∧ p.flagsOffline = false ∧ p.off = none ∧
      p.sigType = (if c.kind == [5] then k.kc.spk else 0) ∧
      p.sig = p.bytes.drop (p.bytes.length - sigLen p.sigType) := by
  obtain ⟨b, rem, hr, h⟩ := pair_match_some.mp h
  obtain ⟨c, rc, hc, h⟩ := cert_match_some.mp h
  obtain ⟨k, r', hd, h⟩ := kac_match_some.mp h
  cases h
  exact ⟨c, rc, k, r', hr, hc, hd, rfl, rfl, rfl, rfl, rfl, rfl⟩

theorem parseLS_raw {w : Bytes} {p : Parsed} (hp : parseLS w = some p) :
    p.bytes ++ p.rem = w ∧ sigLen p.sigType ≠ 0 ∧ sigLen p.sigType ≤ p.bytes.length ∧
    p.sig = p.bytes.drop (p.bytes.length - sigLen p.sigType) ∧
    p.idKey = (w.take 384).drop (384 - sigPubSize p.idType) ∧ p.sigType = p.idType := by
  obtain ⟨c, rc, k, r', hr, hc, hd, hit, hik, _, _, hst, hsig⟩ := parseLS_spec hp
  obtain ⟨_, c', rc', k', db, hc', hlen, hd', _, ht⟩ := readLeaseSet_some.mp hr
  cases hc.symm.trans hc'
  cases hd.symm.trans hd'
  have a := readKac_iff.mp (readDestination_iff.mp hd).1
  have hks := a.sig
  rw [List.take_take, Nat.min_eq_left (by omega)] at hks
  -- the certificate of the destination is the one `ReadLeaseSet` looked at to find its length
  have hkind : c.kind = ((w.take (387 + c.declared)).drop 384).take 1 := by
    rw [(readCert_some.mp hc).2.1, window_take (by omega)]
  have hty : p.sigType = p.idType := by rw [hst, hkind, hit]; exact a.sigType
  have hle := lsTail_sig_le ht
  rw [← hst] at hle
  exact ⟨readLeaseSet_framed.consumed' hr, hty ▸ hit ▸ sigLen_of_constructible a.signing, hle, hsig, hit ▸ hik ▸ hks, hty⟩

theorem verifyLS_sound {C : SigScheme} {p : Parsed} (h : verifyLS C p = true) :
    sigConstructible p.idType = true ∧ C.verify (algOf p.idType) p.idKey (signedMsg [] p) p.sig = true :=
  Bool.and_eq_true _ _ ▸ (guard_true.mp h).2

theorem parseRI_spec {d : Bytes} {p : Parsed} (h : parseRI d = some p) :
    ∃ k r, readRouterInfo d = some (p.bytes, p.rem) ∧ readRouterIdentity d = some (k, r) ∧
      p.idType = k.kc.spk ∧ p.idKey = k.sig ∧ p.flagsOffline = false ∧ p.off = none ∧
      p.sigType = (if (d.drop 384).take 1 == [5] then k.kc.spk else 0) ∧
      p.sig = p.bytes.drop (p.bytes.length - sigLen p.sigType) := by
  obtain ⟨b, rem, hr, h⟩ := pair_match_some.mp h
  obtain ⟨k, r, hd, h⟩ := kac_match_some.mp h
  cases h
  exact ⟨k, r, hr, hd, rfl, rfl, rfl, rfl, rfl, rfl⟩

theorem parseRI_raw {w : Bytes} {p : Parsed} (hp : parseRI w = some p) :
    p.bytes ++ p.rem = w ∧ sigLen p.sigType ≠ 0 ∧ sigLen p.sigType ≤ p.bytes.length ∧
    p.sig = p.bytes.drop (p.bytes.length - sigLen p.sigType) ∧
    p.idKey = (w.take 384).drop (384 - sigPubSize p.idType) ∧ p.sigType = p.idType := by
  obtain ⟨k, r, hr, hd, hit, hik, _, _, hst, hsig⟩ := parseRI_spec hp
  obtain ⟨k', r', ib, hd', _, _, ab, r2, sb, _, _, hs, hb⟩ := readRouterInfo_some.mp hr
  cases hd.symm.trans hd'
  have a := readKac_iff.mp (readRouterIdentity_iff.mp hd).1
  rw [← hst] at hs
  obtain ⟨hne, hle⟩ := readSig_suffix _ hs
  rw [← hb] at hle
  rw [a.sigType, ← hit] at hst
  exact ⟨readRouterInfo_framed.consumed' hr, hne, hle, hsig, hit ▸ hik ▸ a.sig, hst⟩

theorem verifyRI_sound {C : SigScheme} {p : Parsed} (h : verifyRI C p = true) :
    p.sigType = 7 ∧ p.idKey.length = 32 ∧ C.verify 7 p.idKey (signedMsg [] p) p.sig = true := by
  unfold verifyRI at h
  split at h
  · next h7 => obtain ⟨hl, h⟩ := guard_true.mp h; exact ⟨h7, Decidable.not_not.mp hl, h⟩
  · cases h

/-- C05 for the part after the 8-byte header, about variables: `r` is the input from there on, `t`/`key` the type and
    key of the identity, `f` the parsed flag, `m`/`s` message and signature of the final check; `hv` is what
    `verifyDest_sound` / `verifyELS_sound` conclude -/
theorem offPart_sound {C : SigScheme} {flags : Nat} {r : Bytes} {t : Nat} {off : Option OffBlock} {sigT : Nat}
    {f : Bool} {key m s : Bytes} (hf : f = decide (flags % 2 = 1)) (h : offPart flags r t = some (off, sigT))
    (hv : (f = false → sigConstructible t = true ∧ C.verify (algOf t) key m s = true) ∧
      ∀ o, f = true → off = some o → verifyOffline C o key = true ∧ C.verify (algOf o.ttype) o.tkey m s = true) :
    (f = true ↔ flags % 2 = 1) ∧
    (f = false → sigT = t ∧ C.verify (algOf t) key m s = true) ∧
    (f = true → ∃ o a, off = some o ∧ sigT = o.ttype ∧
      o.signedData ++ o.sig = r.take (6 + sigPubSize o.ttype + sigLen t) ∧
      o.expires.length = 4 ∧ o.tkey.length = sigPubSize o.ttype ∧
      C.verify (algOf o.ttype) o.tkey m s = true ∧
      offAlgOf t = some a ∧ C.verify a key o.signedData o.sig = true) := by
  obtain ⟨ob, r2, ho, rfl⟩ := offPart_some.mp h
  unfold offStage at ho
  subst hf
  refine ⟨decide_eq_true_iff, fun hf => ?_, fun hf => ?_⟩
  · rw [if_neg (of_decide_eq_false hf)] at ho
    cases ho
    exact ⟨rfl, (hv.1 hf).2⟩
  · have hf' := of_decide_eq_true hf
    rw [if_pos hf'] at ho hv ⊢
    obtain ⟨h1, h2, _, h4, h5, h6, _, h8⟩ := offFields_layout ho
    obtain ⟨hvo, hv2⟩ := hv.2 _ hf rfl
    obtain ⟨_, _, _, _, _, a, ha, hva⟩ := verifyOffline_sound hvo
    exact ⟨_, a, rfl, h1.symm, by rw [h8, h6, h1, ← List.take_add], h4, h1.symm ▸ h5, hv2, h2 ▸ ha, hva⟩

/-- C05 for LeaseSet2 / MetaLeaseSet with store-type prefix `pfx`: success ⇒ the prescribed (key, message,
    signature) triples verify, stated over the raw input -/
theorem destSigned_sound {read : Bytes → P} (hread : HdrSigned read) (pfx : Bytes) (C : SigScheme)
    {w : Bytes} {p : Parsed} (hp : parseDestSigned read w = some p) (hv : verifyDest pfx C p = true) :
    let consumed := w.take (w.length - p.rem.length)
    let body := consumed.take (consumed.length - sigLen p.sigType)
    let sig := consumed.drop (consumed.length - sigLen p.sigType)
    let idKey := (w.take 384).drop (384 - sigPubSize p.idType)
    p.bytes = consumed ∧ sig.length = sigLen p.sigType ∧ sigLen p.sigType ≠ 0 ∧
    (p.flagsOffline = true ↔ beVal ((w.drop (idLen w + 6)).take 2) % 2 = 1) ∧
    (p.flagsOffline = false →
      p.sigType = p.idType ∧ C.verify (algOf p.idType) idKey (pfx ++ body) sig = true) ∧
    (p.flagsOffline = true → ∃ o, p.off = some o ∧ p.sigType = o.ttype ∧
      o.expires ++ beEnc 2 o.ttype ++ o.tkey ++ o.sig =
        (w.drop (idLen w + 8)).take (6 + sigPubSize o.ttype + sigLen p.idType) ∧
      o.expires.length = 4 ∧ o.tkey.length = sigPubSize o.ttype ∧
      C.verify (algOf o.ttype) o.tkey (pfx ++ body) sig = true ∧
      C.verify (algOf p.idType) idKey (o.expires ++ beEnc 2 o.ttype ++ o.tkey) o.sig = true) := by
  obtain ⟨hcat, hne, hle, hsig, hik, hn8, hfl, ho⟩ := parseDestSigned_raw hread hp
  obtain ⟨hflag, hpl, hofl⟩ := offPart_sound hfl ho (verifyDest_sound hv)
  obtain ⟨hc, hsl, hmsg⟩ := signed_raw hcat hsig hle pfx
  dsimp only
  rw [hc, ← hsig, ← hmsg, ← hik]
  refine ⟨rfl, hsl, hne, hflag, hpl, fun hf => ?_⟩
  obtain ⟨o, a, ho, htt, hraw, hel, hkl, hv2, ha, hva⟩ := hofl hf
  -- a destination's type is not 8, so the block was checked with the algorithm of the destination's own key
  have halg : a = algOf p.idType := by
    rcases offAlgOf_some ha with ⟨h, rfl⟩ | ⟨h, rfl⟩ | ⟨h, _⟩
    · rw [h]; rfl
    · rw [h]; rfl
    · exact absurd h hn8
  exact ⟨o, ho, htt, hraw, hel, hkl, hv2, halg ▸ hva⟩

/-! witnesses used by the examples of `Props/C05.lean` -/

/-- an oracle under which only the attacker's key (32 bytes `0x06`) ever verifies anything -/
def attackerOnly : SigScheme := ⟨fun _ key _ _ => key == List.replicate 32 6⟩

/-- an oracle that accepts everything -/
def acceptAll : SigScheme := ⟨fun _ _ _ _ => true⟩

/-- a hand-built LeaseSet2 view: victim identity key `0x02…`, offline flag set, attacker's transient key,
    64 zero bytes as "destination signature", final signature by the attacker -/
def forged : LS2Parsed :=
  { bytes := [1, 2, 3, 9], rem := [], idType := 7, idKey := List.replicate 32 2, flagsOffline := true,
    off := some { expires := [0, 0, 0, 1], ttype := 7, tkey := List.replicate 32 6,
                  sig := List.replicate 64 0, destType := 7 },
    sigType := 7, sig := [9] }

end I2P.Verify
