import I2P.Time
import I2P.Proofs.DataLemmas
/-! Helper lemmas about the fixed-width and `time` primitives of `I2P/Time.lean`: inside the ranges the
    library reaches, every wrap function is the identity and `Time.Add` is exact. -/
namespace I2P.Time

/-- the values a Go `int64` can hold -/
def IsInt64 (v : Int) : Prop := -2^63 ≤ v ∧ v < 2^63

theorem wrapInt64_id (v : Int) (h1 : -2^63 ≤ v) (h2 : v < 2^63) : wrapInt64 v = v := toInt64_toUInt64 h1 h2

theorem wrapUInt64_nat (m : Nat) (h : m < 2^64) : wrapUInt64 (m : Int) = m := toUInt64_natCast h

theorem wrapUInt64_neg (v : Int) (h1 : -2^63 ≤ v) (h2 : v < 0) : (wrapUInt64 v : Int) = v + 2^64 := toUInt64_neg h1 h2

theorem wrapUInt32_nat (m : Nat) (h : m < 2^32) : wrapUInt32 (m : Int) = m := by
  rw [wrapUInt32, Int.emod_eq_of_lt (Int.natCast_nonneg m) (by omega), Int.toNat_natCast]

theorem newLease2_eq {s : Int} (h : s < 2^64) :
    newLease2 s = if 0 ≤ s ∧ s < 2^32 then some s.toNat else none := by
  by_cases hneg : s < 0
  · rw [newLease2, if_pos (.inl hneg), if_neg (by omega)]
  · obtain ⟨m, rfl⟩ := Int.eq_ofNat_of_zero_le (Int.not_lt.mp hneg)
    rw [newLease2, wrapUInt64_nat m (by omega)]
    by_cases hlt : m < 2^32
    · rw [if_neg (by omega), if_pos (by omega), wrapUInt32_nat m hlt, Int.toNat_natCast]
    · rw [if_pos (by omega), if_neg (by omega)]

theorem int64OfUInt32_id (u : Nat) (h : u < 2^32) : int64OfUInt32 u = u := by
  unfold int64OfUInt32
  rw [Nat.mod_eq_of_lt h, wrapInt64_id _ (by omega) (by omega)]

theorem int64OfUInt64_small (u : Nat) (h : u < 2^63) : int64OfUInt64 u = u := toInt64_of_lt h

/-- `time.Duration(x) * time.Second` cannot overflow for a 16-bit x (65 535 s ≪ 292 years) -/
theorem durationSeconds_exact (x : Nat) (h : x < 2^16) : durationSeconds x = (x : Int) * 1000000000 := by
  unfold durationSeconds second
  rw [wrapInt64_id (x : Int) (by omega) (by omega), wrapInt64_id _ (by omega) (by omega)]

theorem addSec_exact (sec d : Int) (hs1 : -2^61 ≤ sec) (hs2 : sec < 2^61) (hd1 : -2^61 ≤ d) (hd2 : d < 2^61) :
    addSec sec d = sec + d := by
  unfold addSec unixToInternal maxInt64
  simp only
  rw [wrapInt64_id (sec + 62135596800) (by omega) (by omega), wrapInt64_id (sec + 62135596800 + d) (by omega) (by omega),
    if_pos (by rw [beq_iff_eq, decide_eq_decide]; omega), wrapInt64_id _ (by omega) (by omega)]
  omega

theorem timeUnix_whole (s : Int) : timeUnix s 0 = { sec := s, nsec := 0 } := by
  rw [timeUnix, Int.zero_ediv, Int.add_zero]
  rfl

theorem timeAdd_whole (s k : Int) (hs1 : -2^61 ≤ s) (hs2 : s < 2^61) (hk1 : -2^61 ≤ k) (hk2 : k < 2^61) :
    timeAdd { sec := s, nsec := 0 } (k * 1000000000) = { sec := s + k, nsec := 0 } := by
  unfold timeAdd
  simp only [Int.mul_tdiv_cancel k (show (1000000000 : Int) ≠ 0 by decide), Int.mul_tmod_left, Int.natCast_zero, Int.add_zero]
  rw [if_neg (by decide), if_neg (by decide), addSec_exact s k hs1 hs2 hk1 hk2]
  rfl

/-- header arithmetic shared by LeaseSet2, EncryptedLeaseSet and MetaLeaseSet -/
theorem header_expiration (p e : Nat) (hp : p < 2^32) (he : e < 2^16) :
    timeAdd (timeUnix (int64OfUInt32 p) 0) (durationSeconds e) = { sec := (p : Int) + e, nsec := 0 } := by
  rw [int64OfUInt32_id p hp, durationSeconds_exact e he, timeUnix_whole]
  exact timeAdd_whole (p : Int) (e : Int) (by omega) (by omega) (by omega) (by omega)

theorem unix32_time (x : Nat) (h : x < 2^32) : timeUnix (int64OfUInt32 x) 0 = { sec := (x : Int), nsec := 0 } := by
  rw [int64OfUInt32_id x h, timeUnix_whole]

theorem timeUnixMilli_nat (m : Nat) :
    timeUnixMilli (m : Int) = { sec := ((m / 1000 : Nat) : Int), nsec := m % 1000 * 1000000 } := by
  have h0 : (0 : Int) ≤ (m : Int) := by omega
  rw [timeUnixMilli, Int.tdiv_eq_ediv_of_nonneg h0, Int.tmod_eq_emod_of_nonneg h0, timeUnix_ofMillis]

theorem dateTimeOf_small (d : Nat) (h : d < 2^63) :
    dateTimeOf d = { sec := ((d / 1000 : Nat) : Int), nsec := d % 1000 * 1000000 } := by
  unfold dateTimeOf dateIntOf
  rw [toInt64_of_lt h, timeUnixMilli_nat]

theorem leaseTime_small (d : Nat) (h : d < 2^63) :
    leaseTime d = { sec := ((d / 1000 : Nat) : Int), nsec := d % 1000 * 1000000 } := by
  unfold leaseTime
  rw [int64OfUInt64_small d h, timeUnixMilli_nat]

theorem timeBefore_eq_timeAfter (t u : GoTime) : timeBefore t u = timeAfter u t := by
  unfold timeBefore timeAfter
  congr 2
  exact decide_eq_decide.mpr eq_comm

theorem timeAfter_of_sec_lt {t u : GoTime} (h : u.sec < t.sec) : timeAfter t u = true := by
  unfold timeAfter
  rw [decide_eq_true h, Bool.true_or]

theorem timeAfter_of_sec_gt {t u : GoTime} (h : t.sec < u.sec) : timeAfter t u = false := by
  unfold timeAfter
  rw [decide_eq_false (by omega), decide_eq_false (show ¬ t.sec = u.sec by omega), Bool.false_and, Bool.false_or]

/-- a day's margin in the seconds decides `After`, whatever the nanoseconds -/
theorem timeAfter_day (now : GoTime) (s : Int) (n : Nat) :
    (s ≤ now.sec - 86400 → timeAfter now { sec := s, nsec := n } = true) ∧
      (s ≥ now.sec + 86400 → timeAfter now { sec := s, nsec := n } = false) :=
  ⟨fun h => timeAfter_of_sec_lt (by simp only; omega), fun h => timeAfter_of_sec_gt (by simp only; omega)⟩

theorem after_dates (a b : Nat) (ha : a < 2^63) (hb : b < 2^63) :
    timeAfter (dateTimeOf a) (dateTimeOf b) = decide (a > b) := by
  rw [dateTimeOf_small a ha, dateTimeOf_small b hb, Bool.eq_iff_iff]
  simp only [timeAfter, Bool.or_eq_true, Bool.and_eq_true, decide_eq_true_eq]
  omega

theorem before_dates (a b : Nat) (ha : a < 2^63) (hb : b < 2^63) :
    timeBefore (dateTimeOf a) (dateTimeOf b) = decide (a < b) := by
  rw [timeBefore_eq_timeAfter]
  exact after_dates b a hb ha

/-- the loops of `NewestExpiration` and `OldestExpiration` keep the running value unless the next one is
    `better`.  If on `S` that means "not `le`" for a total, transitive `le`, the result is one of the values
    and `le`-bounds them all (`≤` for newest, `≥` for oldest). -/
theorem select_loop {S : Nat → Prop} {le : Nat → Nat → Prop} {better : Nat → Nat → Bool}
    (hb : ∀ a b, S a → S b → (better a b = true ↔ ¬ le a b)) (refl : ∀ a, le a a)
    (total : ∀ a b, ¬ le a b → le b a) (trans : ∀ a b c, le a b → le b c → le a c) :
    ∀ (ds : List Nat) (acc : Nat), (∀ d ∈ acc :: ds, S d) →
      let r := ds.foldl (fun best d => if better d best then d else best) acc
      r ∈ acc :: ds ∧ ∀ d ∈ acc :: ds, le d r
  | [], acc, _ => ⟨List.mem_singleton_self acc, fun _ hd => List.mem_singleton.mp hd ▸ refl acc⟩
  | x :: xs, acc, h => by
    obtain ⟨ha, hxxs⟩ := List.forall_mem_cons.mp h
    obtain ⟨hx, hxs⟩ := List.forall_mem_cons.mp hxxs
    simp only [List.foldl_cons]
    by_cases hle : le x acc
    · rw [if_neg (by rw [hb x acc hx ha]; exact fun h => h hle)]
      obtain ⟨hm, hall⟩ := select_loop hb refl total trans xs acc (List.forall_mem_cons.mpr ⟨ha, hxs⟩)
      obtain ⟨h1, h2⟩ := List.forall_mem_cons.mp hall
      exact ⟨List.mem_cons.mpr ((List.mem_cons.mp hm).imp_right (List.mem_cons_of_mem x)),
        List.forall_mem_cons.mpr ⟨h1, List.forall_mem_cons.mpr ⟨trans _ _ _ hle h1, h2⟩⟩⟩
    · rw [if_pos ((hb x acc hx ha).mpr hle)]
      obtain ⟨hm, hall⟩ := select_loop hb refl total trans xs x (List.forall_mem_cons.mpr ⟨hx, hxs⟩)
      exact ⟨List.mem_cons_of_mem acc hm,
        List.forall_mem_cons.mpr ⟨trans _ _ _ (total _ _ hle) (hall x (List.mem_cons_self ..)), hall⟩⟩

theorem newest_loop (ds : List Nat) (acc : Nat) (h : ∀ d ∈ acc :: ds, d < 2^63) :
    let r := ds.foldl (fun newest date => if timeAfter (dateTimeOf date) (dateTimeOf newest) then date else newest) acc
    r ∈ acc :: ds ∧ ∀ d ∈ acc :: ds, d ≤ r :=
  select_loop (S := (· < 2^63)) (le := (· ≤ ·)) (better := fun a b => timeAfter (dateTimeOf a) (dateTimeOf b))
    (fun a b ha hb => by rw [after_dates a b ha hb]; simp) Nat.le_refl (fun a b h => by omega) (fun a b c => Nat.le_trans)
    ds acc h

theorem oldest_loop (ds : List Nat) (acc : Nat) (h : ∀ d ∈ acc :: ds, d < 2^63) :
    let r := ds.foldl (fun earliest date => if timeBefore (dateTimeOf date) (dateTimeOf earliest) then date else earliest) acc
    r ∈ acc :: ds ∧ ∀ d ∈ acc :: ds, r ≤ d :=
  select_loop (S := (· < 2^63)) (le := (· ≥ ·)) (better := fun a b => timeBefore (dateTimeOf a) (dateTimeOf b))
    (fun a b ha hb => by rw [before_dates a b ha hb]; simp) Nat.le_refl (fun a b h => by omega)
    (fun a b c h1 h2 => Nat.le_trans h2 h1) ds acc h

theorem lease2DateMillis_exact (e : Nat) (h : e < 2^32) : lease2DateMillis e = e * 1000 := by
  unfold lease2DateMillis mulUInt64
  rw [Nat.mod_eq_of_lt h, Nat.mod_eq_of_lt (by omega)]

theorem offlineExpiresDate_exact (x : Nat) (h : x < 2^32) : offlineExpiresDate x = beEnc 8 (x * 1000) := by
  have hm : ({ sec := (x : Int), nsec := 0 } : GoTime).unixMilli = (x * 1000 : Nat) := by
    rw [unixMilli_exact _ (by simp only; omega) (by simp only; omega)]; simp only; omega
  rw [offlineExpiresDate, unix32_time x h]
  exact dateFromTime_eq hm (by omega)

end I2P.Time
