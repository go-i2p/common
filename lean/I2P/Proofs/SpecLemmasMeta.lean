import I2P.Proofs.SpecLemmas
/-! Helper lemmas for C02, continued: MetaLeaseSet entries, and the restrictions of the MetaLeaseSet and
    EncryptedLeaseSet readers. -/

namespace I2P.SpecLemmas
open I2P.Spec I2P.Kac I2P.Structs I2P.Mapping

theorem entryType_cases (t : Nat) (h : entryTypeKnown t = true) : t = 1 ∨ t = 3 ∨ t = 5 := by
  simpa [entryTypeKnown, or_assoc] using h

/-- grouped as the reader cuts it: the fixed 38-byte part, then the properties mapping -/
theorem metaEntry_split (e : SMetaEntry) (y : Bytes) :
    metaEntryCodec.write e ++ y =
      (e.hash ++ (beEnc 1 e.entryType ++ (beEnc 4 e.expires ++ beEnc 1 e.cost))) ++ (mappingCodec.write e.properties ++ y) := by
  rw [metaEntryCodec_write]; simp only [List.append_assoc]

theorem entries_readEntries (es : List SMetaEntry) (x acc : Bytes) {n : Nat} (hn : n = es.length) (h : ∀ e ∈ es, e.wf)
    (hp : ∀ e ∈ es, MappingAccepted e.properties) :
    readEntries n (writeAll metaEntryCodec es ++ x) acc = some (acc ++ writeAll metaEntryCodec es, x) := by
  subst hn
  induction es generalizing acc with
  | nil => simp [readEntries_zero]
  | cons e t ih =>
    obtain ⟨hh, ⟨hty, htk⟩, hex, hco, hpw⟩ := h e (by simp)
    have h38 : (e.hash ++ (beEnc 1 e.entryType ++ (beEnc 4 e.expires ++ beEnc 1 e.cost))).length = 38 := by
      simp only [List.length_append, beEnc_length, hh]
    rw [List.length_cons, writeAll_cons, List.append_assoc, metaEntry_split, readEntries_succ_some]
    refine ⟨?_, ?_, mappingCodec.write e.properties, writeAll metaEntryCodec t ++ x, ?_, ?_⟩
    · rw [List.length_append, h38, List.length_append]
      have := mapping_write_length_ge e.properties
      omega
    · unfold entryTypeOk
      simp only [List.append_assoc]
      rw [List.drop_left' hh, List.take_left' (beEnc_length _ _)]
      rcases entryType_cases _ htk with h1 | h1 | h1 <;> rw [h1] <;> decide
    · rw [List.drop_left' h38]
      exact mapping_readOptions e.properties _ true hpw (hp e (by simp))
    · rw [List.take_left' h38, ih _ (fun q hq => h q (List.mem_cons_of_mem _ hq))
        (fun q hq => hp q (List.mem_cons_of_mem _ hq)), metaEntryCodec_write]
      simp only [List.append_assoc]

/-- restrictions of `ReadMetaLeaseSet` relative to the layout -/
structure MetaLeaseSetAccepted (v : SMetaLeaseSet) : Prop where
  /-- key types the library can construct, and the Destination key-type policy -/
  dest : DestSupported v.dest
  /-- options: no duplicate keys, at most 1000 pairs -/
  options : MappingAccepted v.options
  /-- every entry's properties mapping: no duplicate keys, at most 1000 pairs -/
  properties : ∀ e ∈ v.entries, MappingAccepted e.properties
  /-- `META_LEASESET_MIN_SIZE`: inputs shorter than 505 bytes are refused although shorter MetaLeaseSets
      exist — finding D31 -/
  minSize : 505 ≤ (metaLeaseSetCodec.write v).length

/-- restrictions of `ReadEncryptedLeaseSet` relative to the layout -/
structure EncryptedLeaseSetAccepted (v : SEncryptedLeaseSet) : Prop where
  /-- reserved flag bits 15..2 must be zero (the reader runs `Validate`) -/
  flags : v.flags < 4
  /-- an expires offset of zero is refused -/
  expires : v.expires ≠ 0
  /-- fewer than 61 bytes of inner data are refused -/
  inner : 61 ≤ v.inner.length

end I2P.SpecLemmas
