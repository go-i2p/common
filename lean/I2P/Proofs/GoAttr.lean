import Lean.Meta.Tactic.Simp.RegisterCommand
import Lean.Meta.Tactic.Simp.BuiltinSimprocs
/-- the `simp` set that evaluates a checked (`Go`) program (`I2P/Proofs/CheckedCore.lean`) -/
register_simp_attr go
