import I2P.Proofs.CheckedLemmasMapping
import I2P.Proofs.CheckedLemmasLS2
import I2P.Proofs.StructLemmas
/-! The composite readers of `I2P/Checked2.lean` that embed a Mapping: what their parsed values are compared
    through (`LS2F.bytes`, `RA.bytes`, `RI.bytes`: what `Bytes()` emits), and the lemmas about `ReadRouterAddress` and
    `ReadRouterInfo`.  `ReadLeaseSet2` is put together from the stage lemmas of `CheckedLemmasLS2.lean` in
    `Props/C04b.lean`, where the property theorems are. -/

namespace I2P.Checked
open I2P.Spec I2P.Kac I2P.Mapping I2P.Structs

attribute [local congr] Go.bind_congr

theorem sigTypeOf_eq (l : LS2) (k : KeysAndCert) (h : l.offlineSignature.isSome ↔ l.flags % 2 = 1) :
    l.sigTypeOf k = offSigT l.offlineSignature k.kc.spk := by
  unfold LS2.sigTypeOf offSigT
  cases ho : l.offlineSignature with
  | none => rfl
  | some o => exact if_pos (h.mp (by rw [ho]; rfl))

/-- `LeaseSet2.Bytes()` (`serializeLeaseSet2Content` + signature) -/
def LS2F.bytes (l : LS2F) : Option Bytes :=
  match l.core.destination with
  | none => none
  | some k => k.bytes.map fun db =>
      db ++ (beEnc 4 l.core.published ++ beEnc 2 l.core.expires ++ beEnc 2 l.core.flags) ++
        offBytes l.core.offlineSignature ++ optionsBytes l.options ++ l.core.tailBytes

theorem newIntegerPtrC_one (s : Sl) :
    ∃ i rem, newIntegerPtrC s 1 = .ok (i, rem) ∧ i.data = s.data.take 1 ∧ rem.data = s.data.drop 1 := by
  unfold newIntegerPtrC
  rw [readIntegerC_ok (by omega)]
  by_cases h : s.len < 1
  · have hd : s.data = [] := List.eq_nil_of_length_eq_zero (by rw [s.data_length]; omega)
    simp only [go, h, Option.getD_some, hd, List.take_nil, List.drop_nil]
    exact ⟨_, _, rfl, hd, rfl⟩
  · simp only [go, h, Option.getD_some]
    exact ⟨_, _, rfl, s.take_data 1, s.drop_data 1⟩

theorem newDateS_spec (s : Sl) :
    ∃ r, newDateS s = .ok r ∧
      match r with
      | none => s.len < 8
      | some (d, rem) => ¬ s.len < 8 ∧ d = s.data.take 8 ∧ rem.data = s.data.drop 8 := by
  unfold newDateS
  rcases refines_cases (readDateS_spec s) with ⟨hc, hp⟩ | ⟨⟨d, rem⟩, hc, hp⟩ <;>
    simp only [go, hc] <;> rw [readDate, s.data_length] at hp
  · exact Decidable.byContradiction fun h => by rw [if_neg h] at hp; cases hp
  · rw [Option.ite_none_left_eq_some] at hp
    obtain ⟨rfl, hr⟩ := Prod.mk.inj (Option.some.inj hp.2)
    exact ⟨hp.1, rfl, hr.symm⟩

/-- `RouterAddress.Bytes()` (nil when a pointer field is nil) -/
def RA.bytes (ra : RA) : Bytes :=
  match ra.transportCost, ra.expirationDate, ra.transportOptions with
  | some c, some d, some m => c.data ++ d ++ ra.transportType.data ++ m.dataBytes
  | _, _, _ => []

theorem RA.bytes_mk (c : Sl) (d : Bytes) (t : Sl) (m : MappingC) :
    RA.bytes ⟨some c, some d, t, some m⟩ = c.data ++ d ++ t.data ++ m.dataBytes := by
  rw [RA.bytes]

theorem readRouterAddressS_spec (s : Sl) :
    ∃ r, readRouterAddressS s = .ok r ∧ r.map (fun p => (p.1.bytes, p.2.data)) = readRouterAddress s.data := by
  unfold readRouterAddressS readRouterAddress
  by_cases h12 : s.len < 12
  · simp only [go, validateRouterAddressDataC, h12, Bool.and_false]
  obtain ⟨c, s1, hc, hcd, hs1⟩ := newIntegerPtrC_one s
  have h0 : ¬ s.len = 0 := by omega
  simp only [go, validateRouterAddressDataC, h0, h12, Bool.and_self, parseTransportCostC, hc, parseExpirationDateC]
  have hl1 : s1.len = s.len - 1 := by rw [← s1.data_length, hs1, List.length_drop, s.data_length]
  obtain ⟨_ | ⟨date, s2⟩, hrd, hm⟩ := newDateS_spec s1 <;> simp only [] at hm
  · omega
  obtain ⟨-, rfl, hs2⟩ := hm
  obtain ⟨str, s3, hstr, hstrd, hs3⟩ := readStrS_spec s2
  rw [hs2, hs1, List.drop_drop] at hstr hstrd hs3
  simp only [hrd, go, parseTransportTypeC, hstr, Option.isSome_map]
  cases (readStr (s.data.drop 9)).2.2 with
  | some e => simp only [go, Option.isSome_some]
  | none =>
    obtain ⟨m, rem, hm, hmb, -, hmr⟩ := readMappingS_stream s3
    rw [hs3] at hm hmb hmr
    simp only [go, Option.isSome_none, parseTransportOptionsC, newMappingS, hm, accepted]
    by_cases ha : (readMapping (readStr (s.data.drop 9)).2.1).errs.all (· == .beyond) = true
    · simp only [(find_fatal _).mpr ha, ha, go, RA.bytes_mk, hcd, hs1, hstrd, hmb, hmr, ← List.take_add]
    · cases hf : ((readMapping (readStr (s.data.drop 9)).2.1).errs.map MapErrC.m).find?
          (fun e => !isBeyondWarningC e) with
      | none => exact absurd ((find_fatal _).mp hf) ha
      | some x => simp only [go, Bool.not_eq_true _ ▸ ha]

theorem readRouterIdentityS_spec (s : Sl) :
    ∃ r, readRouterIdentityS s = .ok r ∧ vRem r = readRouterIdentity s.data := by
  unfold readRouterIdentityS readRouterIdentity
  rcases refines_cases (readKacS_spec s) with ⟨hc, hp⟩ | ⟨⟨k, rem⟩, hc, hp⟩ <;> simp only [go, hc, hp]
  split <;> simp only [go]

/-- the hypotheses hold of an identity that came out of the parser; `cert.payload[0:2]` is guarded by the length
    check -/
theorem parseRouterInfoSignatureC_spec (k : KeysAndCert) (s : Sl) (hk : k.kc.cert.kind.length = 1)
    (hl : k.kc.cert.len.length = 2)
    (h5 : k.kc.cert.kind = [5] → 4 ≤ k.kc.cert.payload.length ∧ k.kc.spk = beVal (k.kc.cert.payload.take 2)) :
    ∃ r, parseRouterInfoSignatureC (some k) s = .ok r ∧
      vRem r = readSig s.data (if k.kc.cert.kind == [5] then k.kc.spk else 0) := by
  obtain ⟨cd, hcd, -⟩ := certDataC_spec hk hl
  -- once the signature type `t` is known: `validateSignatureType` and `NewSignature` look up the same table
  have tail : ∀ t : Nat, ∃ r,
      (if (!validateSignatureTypeC (t : Int)) = true then (.ok none : Go (Option (Bytes × Sl)))
        else readSigS s (t : Int)) = .ok r ∧ vRem r = readSig s.data t := by
    intro t
    by_cases hz : sigLen t = 0
    · simp only [validateSignatureTypeC, getSignatureLengthC_nat, hz, go, readSig, Option.isSome_none]
    · simp only [validateSignatureTypeC, getSignatureLengthC_nat, hz, go, Option.isSome_some]
      exact readSigS_spec s t
  simp only [parseRouterInfoSignatureC, getCertificateTypeFromIdentityC, deref, go, certTypeC_eq hk hl, hcd]
  by_cases hkind : k.kc.cert.kind = [5]
  · obtain ⟨h4, hspk⟩ := h5 hkind
    have h4' : ¬ k.kc.cert.payload.length < 4 := Nat.not_lt_of_le h4
    have hp : (Sl.ofBytes k.kc.cert.payload).len = k.kc.cert.payload.length := rfl
    simp only [(kind_five hk).mpr hkind, hkind, go, getSignatureTypeFromCertificateC, certTypeC_eq hk hl, h4',
      slice_ok (s := Sl.ofBytes k.kc.cert.payload) (lo := 0) (hi := 2) (by omega),
      beUint16_eq (b := (Sl.ofBytes k.kc.cert.payload).take 2) (by bounds), ← hspk, beq_self_eq_true, Int.toNat_zero]
    exact tail k.kc.spk
  · simp only [mt (kind_five hk).mp hkind, beq_eq_false_iff_ne.mpr hkind, go]
    exact tail 0

theorem logCriticalMappingErrorsLoopC_ok : ∀ (errs : List MapErrC) (msgs : List Unit) (i : Nat),
    i + errs.length = msgs.length →
      ∃ r, logCriticalMappingErrorsLoopC msgs (i : Int) errs = .ok r ∧ r.length = msgs.length := by
  intro errs
  induction errs with
  | nil => intro msgs i _; exact ⟨msgs, rfl, rfl⟩
  | cons e t ih =>
    intro msgs i h
    rw [List.length_cons] at h
    obtain ⟨r, hr, hl⟩ := ih (msgs.set i ()) (i + 1) (by rw [List.length_set]; omega)
    rw [Int.natCast_add, Int.natCast_one] at hr
    simp only [logCriticalMappingErrorsLoopC, setAt_eq (show i < msgs.length by omega), go, hr]
    rw [hl, List.length_set]

theorem logCriticalMappingErrorsC_ok (errs : List MapErrC) : logCriticalMappingErrorsC errs = .ok () := by
  obtain ⟨r, hr, -⟩ := logCriticalMappingErrorsLoopC_ok errs (List.replicate errs.length ()) 0 (by simp)
  rw [Int.natCast_zero] at hr
  simp only [logCriticalMappingErrorsC, hr, go]

theorem parsePeerSizeAndOptionsC_spec (s : Sl) :
    ∃ r, parsePeerSizeAndOptionsC s = .ok r ∧
      match r with
      | none => accepted (readMapping (s.data.drop 1)) = false
      | some (ps, o, rem) => accepted (readMapping (s.data.drop 1)) = true ∧ ps.data = s.data.take 1 ∧
          o.dataBytes = (Mapping.data (readMapping (s.data.drop 1))).getD [] ∧
          rem.data = (readMapping (s.data.drop 1)).rem := by
  obtain ⟨ps, s1, h1, hps, hs1⟩ := newIntegerPtrC_one s
  obtain ⟨m, rem, hm, hmb, -, hmr⟩ := readMappingS_stream s1
  rw [hs1] at hm hmb hmr
  simp only [parsePeerSizeAndOptionsC, parsePeerSizeFromBytesC, h1, go, riParseOptionsMappingC, newMappingS, hm,
    List.length_map, any_fatal, accepted]
  by_cases hall : (readMapping (s.data.drop 1)).errs.all (· == .beyond) = true
  · simp only [hall, go]
    exact ⟨hps, hmb, hmr⟩
  · -- a fatal error: the list is not empty, `errs[0]` exists
    have hne : ¬ (readMapping (s.data.drop 1)).errs.length = 0 := by
      intro h; rw [List.eq_nil_of_length_eq_zero h] at hall; exact hall rfl
    simp only [hall, hne, go, logCriticalMappingErrorsC_ok,
      getAt_ok (l := (readMapping (s.data.drop 1)).errs.map MapErrC.m) (i := 0) (by rw [List.length_map]; omega)]

/-- `RouterInfo.Bytes()`; `none` = error -/
def RI.bytes (ri : RI) : Option Bytes :=
  match ri.router_identity, ri.published, ri.size, ri.peer_size, ri.options, ri.signature with
  | some k, some p, some sz, some ps, some o, some sg =>
    k.bytes.map fun ib => ib ++ p ++ sz.data ++ ri.addresses.flatMap RA.bytes ++ ps.data ++ o.dataBytes ++ sg
  | _, _, _, _, _, _ => none

theorem RI.bytes_mk (k : KeysAndCert) (p : Bytes) (sz : Sl) (as : List RA) (ps : Sl) (o : MappingC) (sg : Bytes) :
    RI.bytes ⟨some k, some p, some sz, as, some ps, some o, some sg⟩ =
      k.bytes.map fun ib => ib ++ p ++ sz.data ++ as.flatMap RA.bytes ++ ps.data ++ o.dataBytes ++ sg := by
  rw [RI.bytes]

/-- the accumulator of the pure `readAddrs` is the serialisation of the addresses stored so far -/
theorem parseRouterAddressesLoopC_spec : ∀ (fuel i : Nat) (size : Sl) (addrs : List RA) (s : Sl),
    integerInt size.data = ((i + fuel : Nat) : Int) →
    ∃ r, parseRouterAddressesLoopC fuel (i : Int) (some size) addrs s = .ok r ∧
      r.map (fun p => (p.1.flatMap RA.bytes, p.2.1.data)) = readAddrs fuel s.data (addrs.flatMap RA.bytes) := by
  intro fuel
  induction fuel with
  | zero => intros; exact ⟨_, rfl, rfl⟩
  | succ fuel ih =>
    intro i size addrs s hN
    simp only [parseRouterAddressesLoopC, deref, go, hN, readAddrs, Nat.lt_add_of_pos_right (Nat.succ_pos fuel)]
    rcases refines_cases (readRouterAddressS_spec s) with ⟨hc, hp⟩ | ⟨⟨a, more⟩, hc, hp⟩ <;>
      simp only [go, hc, hp]
    refine bind_spec (ih (i + 1) size (addrs ++ [a]) more (by rw [hN, Nat.add_right_comm]; rfl)) ?_
    rintro r hv
    rw [List.flatMap_append, List.flatMap_singleton] at hv
    rw [← hv]
    cases r <;> simp only [go]

theorem readRouterAddressS_progress {s : Sl} {a : RA} {rem : Sl} (h : readRouterAddressS s = .ok (some (a, rem))) :
    rem.len + 12 ≤ s.len := by
  obtain ⟨r, hr, hv⟩ := readRouterAddressS_spec s
  cases h.symm.trans hr
  simpa using readRouterAddress_progress hv.symm

theorem parseRouterAddressesLoopC_bounds {fuel : Nat} {i : Int} {size : Option Sl} {addrs : List RA} {s : Sl}
    {as : List RA} {rem : Sl} {n : Nat} (h : parseRouterAddressesLoopC fuel i size addrs s = .ok (some (as, rem, n))) :
    n ≤ fuel ∧ as.length = addrs.length + n ∧ rem.len + 12 * n ≤ s.len ∧
      (n = 0 ∨ ∃ sz, size = some sz ∧ i + n ≤ integerInt sz.data) := by
  induction fuel generalizing i addrs s as rem n with
  | zero => cases h; exact ⟨Nat.le_refl 0, rfl, Nat.le_refl _, .inl rfl⟩
  | succ fuel ih =>
    rw [parseRouterAddressesLoopC] at h
    obtain ⟨sz, hsz, h⟩ := bind_eq_ok.mp h
    cases size with
    | none => cases hsz
    | some sz' =>
      cases hsz
      rw [integerIntC_eq, bind_ok] at h
      by_cases hc : i < integerInt sz.data
      case neg => rw [if_pos hc] at h; cases h; exact ⟨Nat.zero_le _, rfl, Nat.le_refl _, .inl rfl⟩
      rw [if_neg (fun hn => hn hc)] at h
      obtain ⟨_ | ⟨a, more⟩, hp, h⟩ := bind_eq_ok.mp h
      · cases h
      have hcons := readRouterAddressS_progress hp
      obtain ⟨_ | ⟨as2, rem2, n2⟩, hq, h⟩ := bind_eq_ok.mp h <;> cases h
      obtain ⟨b1, b2, b3, b4⟩ := ih hq
      rw [List.length_append, List.length_singleton] at b2
      refine ⟨Nat.succ_le_succ b1, by omega, by omega, .inr ⟨sz, rfl, ?_⟩⟩
      rcases b4 with rfl | ⟨_, ⟨⟩, b4⟩ <;> omega

theorem readRouterInfoS'_spec (s : Sl) :
    ∃ r, readRouterInfoS' s = .ok r ∧
      r.bind (fun p => p.1.bytes.map (·, p.2.1.data)) = readRouterInfo s.data ∧
      match r with
      | none => True
      | some (info, _, n) => n ≤ 255 ∧ info.addresses.length = n ∧ 12 * n ≤ s.len := by
  rw [readRouterInfo_eq]
  unfold readRouterInfoS' parseRouterInfoCoreC
  rcases refines_cases (readRouterIdentityS_spec s) with ⟨h1, hp1⟩ | ⟨⟨k, s1⟩, h1, hp1⟩ <;>
    simp only [go, h1, hp1, Option.bind_none]
  dsimp only at hp1
  have a := readKac_iff.mp (readRouterIdentity_iff.mp hp1).1
  obtain ⟨hk1, hl2⟩ := readCert_lengths a.cert.read
  have hib := a.bytes
  simp only [hib, riCont]
  obtain ⟨_ | ⟨date, s2⟩, h2, hm2⟩ := newDateS_spec s1 <;> simp only [] at hm2
  · simp only [go, h2, hm2, Option.bind_none]
  obtain ⟨h8, rfl, hs2⟩ := hm2
  obtain ⟨sz, s3, h3, hsz, hs3⟩ := newIntegerPtrC_one s2
  rw [hs2] at hsz hs3
  -- the size is one byte (or none): at most 255 iterations
  have hszl : sz.data.length ≤ 1 := by rw [hsz, List.length_take]; exact Nat.min_le_left _ _
  have hN255 : beVal sz.data < 256 := beVal_lt_of_le hszl
  have hN := integerInt_beVal (b := sz.data) (Nat.le_trans hszl (by decide))
  obtain ⟨r4, h4, hv4⟩ := parseRouterAddressesLoopC_spec (beVal sz.data) 0 sz [] s3 (by rw [hN, Nat.zero_add])
  rw [Int.natCast_zero] at h4
  simp only [go, h2, h8, h3, parseRouterAddressesC, deref, hN, h4]
  simp only [hs3, hsz, List.flatMap_nil, List.drop_drop, Nat.reduceAdd] at hv4
  rw [← hv4]
  rcases r4 with _ | ⟨as, s4, n⟩ <;> simp only [go, Option.bind_none]
  obtain ⟨bn, bl, bc, -⟩ := parseRouterAddressesLoopC_bounds h4
  obtain ⟨_ | ⟨ps, opt, s5⟩, h5', hm5⟩ := parsePeerSizeAndOptionsC_spec s4 <;> simp only [] at hm5
  · simp only [go, h5', hm5, Option.bind_none]
  obtain ⟨hacc, hps, hopt, hs5⟩ := hm5
  rw [← a.kind, ← hs5]
  rcases refines_cases (parseRouterInfoSignatureC_spec k s5 hk1 hl2 a.key_payload) with
    ⟨h6, hp6⟩ | ⟨⟨sg, s6⟩, h6, hp6⟩ <;>
    simp only [go, h5', hacc, h6, hp6, Option.bind_none, Option.bind_some, RI.bytes_mk, hib, hsz, hps, hopt]
  -- what the loop consumed was there: the slices after the identity, the date and the size byte only shrink
  obtain ⟨_, -, hcons⟩ := readRouterIdentity_isSub.consumed hp1
  have e1 : s1.len ≤ s.len := by
    rw [← s.data_length, ← hcons, List.length_append, s1.data_length]; exact Nat.le_add_left _ _
  have e3 : s3.len ≤ s1.len := by
    rw [← s3.data_length, hs3, List.length_drop, List.length_drop, s1.data_length]
    exact Nat.le_trans (Nat.sub_le _ _) (Nat.sub_le _ _)
  exact ⟨Nat.le_of_lt_succ (Nat.lt_of_le_of_lt bn hN255), bl.trans (Nat.zero_add n),
    Nat.le_trans (Nat.le_trans (Nat.le_add_left _ _) bc) (Nat.le_trans e3 e1)⟩

end I2P.Checked
