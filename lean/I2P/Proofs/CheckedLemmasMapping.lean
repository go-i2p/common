import I2P.Checked2
import I2P.Proofs.CheckedLemmas
import I2P.Proofs.MappingLemmas
/-! The mapping readers of `I2P/Checked2.lean` against the pure `I2P/Mapping.lean`.  Where the pure model is written
    with pattern matches and the Go code with tests (`parseSingle`, `loop`, `readMapping`), the pure model is first
    restated in the shape of the Go code (`parseSingle_eq`, `loop_succ`, `readMapping_eq` of
    `Proofs/MappingLemmas.lean`); mirror and model then split on the same conditions. -/

namespace I2P.Checked
open I2P.Mapping

attribute [local congr] Go.bind_congr

theorem getAt_ok {α : Type} {l : List α} {i : Int} (h : 0 ≤ i ∧ i < l.length) :
    getAt l i = .ok (l[i.toNat]'(by omega)) := by
  simp only [getAt, h, and_self, dite_true]

theorem i2pStringLengthC_spec (s : Sl) :
    ∃ e, i2pStringLengthC s = .ok (((s.data.headD 0).toNat : Int), e) ∧ e.isNone = strDataOk s.data := by
  unfold i2pStringLengthC
  cases hd : s.data with
  | nil =>
    simp only [go, Sl.len_of_data_nil hd]
    exact ⟨_, rfl, rfl⟩
  | cons l rest =>
    have := Sl.len_of_data_cons hd
    have h0 : ¬ s.len = 0 := by omega
    have h1 : ¬ s.len < 1 := by omega
    simp only [go, h0, h1, readIntegerC_ok (size := 1) (by omega), hd,
      List.take_succ_cons, List.take_zero, integerInt_beVal (b := [l]) (Nat.le_of_ble_eq_true rfl), beVal_singleton,
      strDataOk, List.headD_cons]
    refine ⟨_, rfl, ?_⟩
    split
    · exact (decide_eq_false (by omega)).symm
    split
    · exact (decide_eq_false (by omega)).symm
    · exact (decide_eq_true (by omega)).symm

theorem i2pStringDataC_spec (s : Sl) :
    ∃ e, i2pStringDataC s = .ok (strData s.data, e) ∧ (e.isNone = strDataOk s.data) := by
  obtain ⟨e, he, hok⟩ := i2pStringLengthC_spec s
  unfold i2pStringDataC
  simp only [he, go]
  cases e with
  | some e => exact ⟨some e, by rw [strData_of_not_ok hok.symm], hok⟩
  | none =>
    obtain ⟨l, rest, hd, hl⟩ := strDataOk_iff.mp hok.symm
    have := Sl.len_of_data_cons hd
    refine ⟨none, ?_, hok⟩
    go_simp [hd, strData, hl, List.headD_cons, Int.add_sub_cancel, List.take_length]
    cases rest <;> rfl

theorem validateAndConsumeDelimiterC_eq (s : Sl) (c : UInt8) :
    validateAndConsumeDelimiterC s c = .ok (if s.data.head? = some c then (s.drop 1, none)
      else (s, some (.m (if c = 0x3d then .expEq else .expSemi)))) := by
  unfold validateAndConsumeDelimiterC beginsWithC
  cases hd : s.data with
  | nil =>
    simp only [go, Sl.len_of_data_nil hd, List.head?_nil, reduceCtorEq]
    split <;> rfl
  | cons b t =>
    obtain ⟨hl, hi, hfrom, -⟩ := head_drop hd
    simp only [go, show ¬ s.len = 0 by omega, hi, hfrom, List.head?_cons, Option.some.injEq]
    by_cases hb : b = c
    · simp only [hb, go, beq_self_eq_true]
    · simp only [hb, go, beq_eq_false_iff_ne.mpr hb]
      split <;> rfl

/-- the error `parseAndValidateKey` returns, from the string error and the duplicate flag -/
def keyErrC (kerr : Option StrErr) (dup : Bool) : Option MapErrC :=
  match kerr with
  | some .zero => some (.str .zero)
  | some e => if dup then some (.m .dup) else some (.str (.ofPure e))
  | none => if dup then some (.m .dup) else none

theorem checkForDuplicateKeyC_eq (k : Sl) (seen : List Bytes) :
    checkForDuplicateKeyC k seen = .ok (if seen.contains (strData k.data) then some (.m .dup) else none) := by
  obtain ⟨e, he, -⟩ := i2pStringDataC_spec k
  simp only [checkForDuplicateKeyC, he, go]
  split <;> rfl

theorem parseAndValidateKeyC_spec (s : Sl) (seen : List Bytes) :
    ∃ k r, parseAndValidateKeyC s seen =
        .ok (r, k, keyErrC (readStr s.data).2.2 (seen.contains (strData (readStr s.data).1))) ∧
      k.data = (readStr s.data).1 ∧ r.data = (readStr s.data).2.1 := by
  obtain ⟨k, r, hk, hkd, hrd⟩ := readStrS_spec s
  refine ⟨k, r, ?_, hkd, hrd⟩
  simp only [parseAndValidateKeyC, hk, go, checkForDuplicateKeyC_eq, hkd]
  generalize seen.contains (strData (readStr s.data).1) = c
  cases (readStr s.data).2.2 with
  | none => cases c <;> rfl
  | some e => cases e <;> cases c <;> rfl

/-- string errors never surface: a delimiter error pre-empts them -/
theorem parseSingleKeyValuePairC_spec (s : Sl) (seen : List Bytes) :
    ∃ rem k v, parseSingleKeyValuePairC s seen = .ok (rem, (k, v), (parseSingle s.data seen).err.map .m) ∧
      rem.data = (parseSingle s.data seen).rem ∧ k.data = (parseSingle s.data seen).pair.1 ∧
      v.data = (parseSingle s.data seen).pair.2 := by
  obtain ⟨k, r1, hk, hkd, hr1⟩ := parseAndValidateKeyC_spec s seen
  rw [parseSingle_eq]
  simp only [parseSingleKeyValuePairC, hk, go, validateAndConsumeDelimiterC_eq, hr1]
  by_cases h1 : (readStr s.data).2.1.head? = some 0x3d
  case neg => simp only [h1, go]; exact ⟨r1, k, Sl.nil, rfl, hr1, hkd, rfl⟩
  obtain ⟨v, r3, hv, hvd, hr3⟩ := readStrS_spec (r1.drop 1)
  simp only [Sl.drop_data, hr1] at hv hvd hr3
  simp only [h1, go, parseAndValidateValueC, hv, hr3]
  by_cases h2 : (readStr ((readStr s.data).2.1.drop 1)).2.1.head? = some 0x3b
  case neg => simp only [h2, go]; exact ⟨r3, k, v, rfl, hr3, hkd, hvd⟩
  -- both delimiters were found, so both remainders are non-empty and neither string had an error
  have hke := readStr_err_none (d := s.data) (by intro h; rw [h] at h1; cases h1)
  have hve := readStr_err_none (d := (readStr s.data).2.1.drop 1) (by intro h; rw [h] at h2; cases h2)
  simp only [h2, go, hke, hve, keyErrC]
  refine ⟨r3.drop 1, k, v, ?_, by rw [Sl.drop_data, hr3], hkd, hvd⟩
  cases seen.contains (strData (readStr s.data).1) <;> rfl

theorem storeEncounteredKeyC_eq (k : Sl) (seen : List Bytes) :
    storeEncounteredKeyC k seen = .ok (strData k.data :: seen) := by
  obtain ⟨e, he, -⟩ := i2pStringDataC_spec k
  simp only [storeEncounteredKeyC, he, go]

theorem getAt_last {α : Type} (l : List α) (a : α) : getAt (l ++ [a]) (((l ++ [a]).length : Int) - 1) = .ok a := by
  rw [getAt_ok (by rw [List.length_append, List.length_singleton]; omega)]
  simp

theorem shouldStopParsingC_m (x : E) : shouldStopParsingC (.m x) = decide (x = .expEq ∨ x = .expSemi) := by
  cases x <;> rfl

theorem shouldStopLoopC_eq (pc : Int) (s : Sl) (lm : Bool) :
    shouldStopLoopC pc s lm = decide (1000 ≤ pc ∨ s.len = 0 ∨ (lm = true ∧ s.len < 6)) := by
  simp only [shouldStopLoopC, hasMinimumBytesForKeyValuePairC, go,
    show ((MAX_MAPPING_PAIRS : Nat) : Int) = 1000 from rfl]
  by_cases hc : 1000 ≤ pc
  · simp only [hc, ↓reduceIte, true_or, decide_true]
  by_cases h0 : s.len = 0
  · simp only [hc, h0, ↓reduceIte, true_or, or_true, decide_true]
  cases lm <;> simp [hc, h0]

/-- one iteration of the loop of `parseKeyValuePairs`, in the shape of `loop_succ` -/
theorem parseKeyValuePairsLoopC_succ (fuel : Nat) (s : Sl) (vals : List PairS) (errs : List MapErrC)
    (seen : List Bytes) (pc prev : Int) (lm : Bool) :
    ∃ rem p, rem.data = (parseSingle s.data seen).rem ∧ pairData p = (parseSingle s.data seen).pair ∧
      parseKeyValuePairsLoopC (fuel + 1) s vals errs seen pc prev lm =
        if 1000 ≤ pc ∨ s.len = 0 ∨ (lm = true ∧ s.len < 6) then
          .ok (s, vals, if 1000 ≤ pc then errs ++ [.m .maxPairs] else errs, 0)
        else match checkForwardProgressC pc s.len prev with
        | some e => .ok (s, vals, errs ++ [e], 0)
        | none =>
          let e := (parseSingle s.data seen).err
          if e = some .expEq ∨ e = some .expSemi then .ok (rem, vals, errs ++ (e.map .m).toList, 1)
          else if rem.len = 0 then .ok (rem, vals ++ [p], errs ++ (e.map .m).toList, 1)
          else do
            let (rem', vals', errs', n) ← parseKeyValuePairsLoopC fuel rem (vals ++ [p]) (errs ++ (e.map .m).toList)
              (strData p.1.data :: seen) (pc + 1) s.len lm
            return (rem', vals', errs', n + 1) := by
  obtain ⟨rem, k, v, h, hr, hk, hv⟩ := parseSingleKeyValuePairC_spec s seen
  refine ⟨rem, (k, v), hr, Prod.ext hk hv, ?_⟩
  simp only [parseKeyValuePairsLoopC, parseNextPairC, shouldStopLoopC_eq, appendMaxPairsErrorC, h, go,
    decide_eq_true_eq,
    show ((MAX_MAPPING_PAIRS : Nat) : Int) = 1000 from rfl]
  by_cases hstop : 1000 ≤ pc ∨ s.len = 0 ∨ (lm = true ∧ s.len < 6)
  · rw [if_pos hstop, if_pos hstop]
  rw [if_neg hstop, if_neg hstop]
  cases checkForwardProgressC pc (s.len : Int) prev with
  | some e => rfl
  | none =>
    cases (parseSingle s.data seen).err with
    | none =>
      simp only [go, getAt_last, storeEncounteredKeyC_eq, Option.toList_none, List.append_nil, decide_eq_true_eq,
        reduceCtorEq]
    | some x =>
      simp only [go, shouldStopParsingC_m, Option.toList_some, decide_eq_true_eq, Option.some.injEq]
      by_cases hx : x = .expEq ∨ x = .expSemi <;>
        simp only [hx, go, getAt_last, storeEncounteredKeyC_eq, decide_eq_true_eq]

/-- "no forward progress" is never reported: the invariant is the one `checkForwardProgress` tests -/
theorem kvLoop_spec (fuel : Nat) (s : Sl) (vals : List PairS) (errs : List E) (seen : List Bytes) (count : Nat)
    (prev : Int) (lenBad : Bool) (hinv : count = 0 ∨ (s.len : Int) < prev) :
    ∃ r, parseKeyValuePairsLoopC fuel s vals (errs.map .m) seen count prev lenBad = .ok r ∧
      (r.1.data, r.2.1.map pairData, r.2.2.1) =
        let p := loop fuel count s.data (vals.map pairData) errs seen lenBad
        (p.1, p.2.1, p.2.2.map .m) := by
  induction fuel generalizing s vals errs seen count prev with
  | zero => exact ⟨_, rfl, rfl⟩
  | succ fuel ih =>
    obtain ⟨rem, p, hrem, hp, hstep⟩ :=
      parseKeyValuePairsLoopC_succ fuel s vals (errs.map .m) seen count prev lenBad
    rw [hstep, loop_succ]
    clear hstep
    simp only [go, show MAX_MAPPING_PAIRS = 1000 from rfl]
    by_cases hstop : 1000 ≤ count ∨ s.len = 0 ∨ (lenBad = true ∧ s.len < 6)
    · simp only [hstop, ↓reduceIte, ok_iff, apply_ite (List.map MapErrC.m), List.map_append, List.map_cons,
      List.map_nil]
    have hprog : checkForwardProgressC (count : Int) (s.len : Int) prev = none := by
      rw [checkForwardProgressC, if_neg (by omega)]
    have hmap : ∀ e : Option E, errs.map MapErrC.m ++ (e.map .m).toList = (errs ++ e.toList).map .m := by
      intro e; cases e <;> simp
    have hlen : (parseSingle s.data seen).rem.length = rem.len := by rw [← hrem, Sl.data_length]
    simp only [hstop, hprog, ↓reduceIte, hmap, hlen]
    by_cases hd : (parseSingle s.data seen).err = some .expEq ∨ (parseSingle s.data seen).err = some .expSemi
    · simp only [hd, ↓reduceIte, ok_iff, hrem]
    by_cases hr0 : rem.len = 0
    · simp only [hd, hr0, ↓reduceIte, ok_iff, hrem, List.map_append, List.map_cons, List.map_nil, hp]
    -- a stored pair consumed at least four bytes: this is the progress `checkForwardProgress` tests for
    have hpr := parseSingle_progress s.data seen hd
    obtain ⟨r, hr, hv⟩ := ih rem (vals ++ [p]) (errs ++ (parseSingle s.data seen).err.toList)
      (strData p.1.data :: seen) (count + 1) s.len (.inr (by have := s.data_length; omega))
    rw [Int.natCast_add, Int.natCast_one] at hr
    simp only [hrem, List.map_append, List.map_cons, List.map_nil, hp,
      show p.1.data = _ from congrArg Prod.fst hp] at hv
    simp only [hd, hr0, hr, go]
    exact hv

/-- `MappingC.vals` as the pure `Res.vals`: `none` while the pointer is nil, else the bytes of the stored pairs -/
def valsData (v : Option (List PairS)) : Option (List Pair) := v.map (·.map pairData)

theorem validateMappingLengthC_eq (s ml : Sl) (L : Nat) (hL : integerInt ml.data = (L : Int)) :
    validateMappingLengthC s ml =
      .ok ((if s.len > L then [E.beyond] else if L > s.len then [E.exceeds] else []).map .m) := by
  simp only [validateMappingLengthC, hL, go]
  split
  · rfl
  split <;> rfl

theorem readMappingValuesS_spec (s ml : Sl) (L : Nat) (hL : integerInt ml.data = (L : Int)) :
    ∃ vals, readMappingValuesS s ml = .ok (vals, Sl.nil, (readValues s.data L).2.map .m) ∧
      valsData vals = (readValues s.data L).1 := by
  simp only [readMappingValuesS, readValues, validateMappingInputC,
    validateMappingLengthC_eq s ml L hL, go]
  by_cases h1 : s.len < 1
  · simp only [h1, decide_true, Bool.not_true, Bool.not_false, ↓reduceIte]
    exact ⟨none, rfl, rfl⟩
  generalize (if s.len > L then [E.beyond] else if L > s.len then [E.exceeds] else []) = e0
  obtain ⟨r, hr, hv⟩ := kvLoop_spec (MAX_MAPPING_PAIRS + 2) s [] e0 [] 0 s.len (decide (e0.length > 0)) (.inl rfl)
  simp only [Int.natCast_zero, gt_iff_lt, List.map_nil, Prod.mk.injEq] at hr hv
  simp only [h1, parseKeyValuePairsC, go, List.length_map, hr]
  exact ⟨some r.2.1, by rw [hv.2.2], congrArg some hv.2.1⟩

theorem ite_append {α : Type} {c : Prop} [Decidable c] (l : List α) (a : α) :
    (if c then l ++ [a] else l) = l ++ if c then [a] else [] := by
  split
  · rfl
  · rw [List.append_nil]

/-- `ReadMapping` never panics: neither the nil `size` pointer nor `*mapping.vals` is ever dereferenced while nil,
    `remainder[:size]` / `remainder[size:]` stay in range -/
theorem readMappingS_spec (s : Sl) :
    ∃ m rem, readMappingS s = .ok (m, rem, (readMapping s.data).errs.map .m) ∧
      m.size.isSome = (readMapping s.data).hasSize ∧ valsData m.vals = (readMapping s.data).vals ∧
      rem.data = (readMapping s.data).rem := by
  rw [readMapping_eq, s.data_length]
  unfold readMappingS
  by_cases h2 : s.len < 2
  · simp only [validateMappingInputDataC, h2, go]
    exact ⟨{}, Sl.nil, rfl, rfl, rfl, rfl⟩
  simp only [validateMappingInputDataC, parseMappingSizeC, readIntegerC_ok (s := s) (size := 2) (by omega), h2, go,
    deref]
  generalize hsz : beVal (s.data.take 2) = size
  have hI : integerInt (s.take 2).data = (size : Int) := by rw [Sl.take_data, integerInt_take _ (by omega), hsz]
  by_cases hz : size = 0
  · simp only [hz, go]
    exact ⟨_, _, rfl, rfl, rfl, Sl.drop_data s 2⟩
  simp only [hz, go, processMappingDataC, deref, hsz]
  by_cases hshort : s.len - 2 < size
  · obtain ⟨vals, hv, hvd⟩ := readMappingValuesS_spec (s.drop 2) (s.take 2) size hI
    rw [Sl.drop_data] at hv hvd
    simp only [hshort, handleInsufficientDataC, deref, go, hv]
    exact ⟨_, _, rfl, rfl, hvd, rfl⟩
  · obtain ⟨vals, hv, hvd⟩ := readMappingValuesS_spec ((s.drop 2).take size) (s.take 2) size hI
    -- the values pointer that `logMappingCompletionDetails` dereferences is non-nil: the body has at least one byte
    obtain ⟨v', hsome⟩ := readValues_vals (d := ((s.drop 2).take size).data) size (by bounds)
    obtain ⟨v, rfl, -⟩ := Option.map_eq_some_iff.mp (hvd.trans hsome)
    simp only [Sl.take_data, Sl.drop_data] at hv hvd
    obtain ⟨hto, hfrom, -⟩ := take_drop_ok (s := s.drop 2) (Nat.le_of_not_lt hshort)
    simp only [hshort, processNormalMappingDataC, deref, go, hsz, ← apply_ite Except.ok, hto, hfrom, hv,
      logMappingCompletionDetailsC, List.length_map, List.map_append, apply_ite (List.map MapErrC.m), List.map_cons,
      List.map_nil, List.nil_append, ite_append]
    exact ⟨_, _, rfl, rfl, hvd, Sl.drop_data _ _⟩

theorem putUint64C_zeros (v : Nat) : putUint64C (Sl.zeros 8) v = .ok ((Sl.zeros 8).wr 0 (beEnc 8 v)) := by
  unfold putUint64C
  rw [index_ok (by simp), copyAt_ok (by simp)]
  simp only [go, List.take_of_length_le (Nat.le_of_eq (beEnc_length 8 v)), Int.toNat_zero]

theorem newIntegerFromIntC_spec (value size : Int) :
    ∃ r, newIntegerFromIntC value size = .ok r ∧ r.map Sl.data = newIntegerFromInt value size := by
  unfold newIntegerFromIntC newIntegerFromInt validateIntegerInputC
  by_cases hs : size < 1 ∨ 8 < size
  · simp only [go, hs, Bool.and_false]
  obtain ⟨k, rfl⟩ := Int.eq_ofNat_of_zero_le (show 0 ≤ size by omega)
  have hk : ¬ (k < 1 ∨ 8 < k) := by omega
  have h8 : (if k < 8 then (k : Int) else 8) = k := by split <;> omega
  by_cases hv : value < 0
  · simp only [go, hv, Bool.false_and]
  by_cases hm : maxValueForSize k < toUInt64 value
  · simp only [go, hv, hk, hm, Bool.and_self]
  simp only [go, hv, hk, hm, Bool.and_self, createIntegerFromBytesC, putUint64C_zeros, h8,
    sliceFrom_ok (s := (Sl.zeros 8).wr 0 (beEnc 8 (toUInt64 value))) (lo := 8 - (k : Int)) (by bounds),
    readIntegerC_ok (size := k) (by omega)]
  rw [if_neg (by omega)]
  simp only [go, zeros_wr_data (beEnc_length 8 _), beEnc_drop_sub (show k ≤ 8 by omega),
    List.take_of_length_le (Nat.le_of_eq (beEnc_length k _))]

theorem newIntegerFromIntC_byte (l : UInt8) : ∃ i,
  newIntegerFromIntC (l.toNat : Int) 1 = .ok (some i) ∧ i.data = [l] := by
  obtain ⟨r, hr, hv⟩ := newIntegerFromIntC_spec (l.toNat : Int) 1
  have hl := UInt8.toNat_lt l
  rw [show (1 : Int) = ((1 : Nat) : Int) from rfl, newInt_nat l.toNat 1 (by omega) (by omega) (by omega),
    if_pos (by omega)] at hv
  cases r with
  | none => cases hv
  | some i => exact ⟨i, hr, by simpa [beEnc, Nat.mod_eq_of_lt hl] using hv⟩

/-- what `serializeOnePair` does with each of its two strings: when `Length()` reports no error, the length Integer
    followed by `str[1:]` is the string itself -/
theorem i2pStringPartsC_eq (s : Sl) :
    (strDataOk s.data = false ∧ ∃ n e, i2pStringLengthC s = .ok (n, some e)) ∨
    (strDataOk s.data = true ∧ ∃ n i t, i2pStringLengthC s = .ok (n, none) ∧ newIntegerFromIntC n 1 = .ok (some i) ∧
      sliceFrom s 1 = .ok t ∧ i.data ++ t.data = s.data) := by
  obtain ⟨e, he, hok⟩ := i2pStringLengthC_spec s
  cases e with
  | some e => exact .inl ⟨hok.symm, _, e, he⟩
  | none =>
    obtain ⟨l, rest, hd, hl⟩ := strDataOk_iff.mp hok.symm
    obtain ⟨i, hi, hid⟩ := newIntegerFromIntC_byte l
    rw [hd, List.headD_cons] at he
    obtain ⟨-, -, hfrom, htail⟩ := head_drop hd
    exact .inr ⟨hok.symm, _, i, _, he, hi, hfrom, by rw [hid, htail, hd]; rfl⟩

/-- `pair[i][1:]` cannot panic: it is only reached after `Length()` succeeded, i.e. for a string of at least one
    byte -/
theorem serializeOnePairC_eq (p : PairS) :
    serializeOnePairC p = .ok (if strDataOk p.1.data = true ∧ strDataOk p.2.data = true
      then some (serPair (pairData p)) else none) := by
  obtain ⟨k, v⟩ := p
  unfold serializeOnePairC
  rcases i2pStringPartsC_eq k with ⟨hk, n, e, h1⟩ | ⟨hk, n, i, t, h1, h2, h3, h4⟩
  · simp only [h1, go, hk, Option.isSome_some]
  rcases i2pStringPartsC_eq v with ⟨hv, n', e', h1'⟩ | ⟨hv, n', i', t', h1', h2', h3', h4'⟩
  · simp only [h1, h2, h1', go, hv, Option.isSome_some, Option.isSome_none]
  rw [if_pos ⟨hk, hv⟩, serPair, if_pos ⟨hk, hv⟩]
  simp only [h1, h2, h1', h2', h3, h3', go, Option.isSome_none, pairData, ← h4, ← h4', List.nil_append,
    List.append_assoc]

theorem serializeMappingPairsC_eq (ps : List PairS) : serializeMappingPairsC ps = .ok (serPairs (ps.map pairData)) := by
  induction ps with
  | nil => rfl
  | cons p t ih =>
    simp only [serializeMappingPairsC, serializeOnePairC_eq, go, ih, List.map_cons, serPairs_cons]
    by_cases h : strDataOk p.1.data = true ∧ strDataOk p.2.data = true
    · simp only [h, go]
    · simp only [h, go, serPair, pairData, List.nil_append]

theorem values_data (m : MappingC) : m.values.map pairData = (valsData m.vals).getD [] := by
  cases hv : m.vals <;> simp [MappingC.values, valsData, hv]

theorem mappingDataC_eq (m : MappingC) :
    mappingDataC (some m) = .ok (if m.size.isSome then some (dataOf ((valsData m.vals).getD [])) else none) := by
  simp only [mappingDataC, serializeMappingPairsC_eq, values_data, go, dataOf]
  cases m.size <;> rfl

theorem isBeyond_m (e : E) : isBeyondWarningC (.m e) = (e == .beyond) := by
  cases e <;> rfl

theorem no_fatal_iff (l : List E) :
    (∀ e ∈ l.map MapErrC.m, ¬ (!isBeyondWarningC e) = true) ↔ l.all (· == .beyond) = true := by
  simp only [List.mem_map, forall_exists_index, and_imp, forall_apply_eq_imp_iff₂, isBeyond_m, Bool.not_eq_true',
    Bool.not_eq_false, List.all_eq_true]

theorem find_fatal (l : List E) :
    (l.map MapErrC.m).find? (fun e => !isBeyondWarningC e) = none ↔ l.all (· == .beyond) = true := by
  rw [List.find?_eq_none, no_fatal_iff]

theorem any_fatal (l : List E) : hasCriticalMappingErrorsC (l.map .m) = !(l.all (· == .beyond)) := by
  simp only [hasCriticalMappingErrorsC, List.any_eq_not_all_not, List.all_map, Function.comp_def, isBeyond_m,
    Bool.not_not]

theorem optionsFatalFilterC_eq (l : List E) :
    optionsFatalFilterC (l.map .m) = .ok (l.all (· == .beyond)) := by
  unfold optionsFatalFilterC
  cases hf : (l.map MapErrC.m).filter (fun e => !isBeyondWarningC e) with
  | nil =>
    rw [(no_fatal_iff l).mp (List.filter_eq_nil_iff.mp hf)]
    simp only [go, List.length_nil]
  | cons a t =>
    have hl : 0 < (l.map MapErrC.m).length := by
      cases l with
      | nil => cases hf
      | cons _ _ => simp
    have : l.all (· == .beyond) = false := by
      rw [← Bool.not_eq_true, ← no_fatal_iff, ← List.filter_eq_nil_iff, hf]; simp
    simp only [go, hl, this, List.length_cons, Nat.zero_lt_succ, getAt_ok (l := a :: t) (i := 0) (by simp)]

/-! what the `Bytes()` methods emit; the serialisers themselves are outside C04 -/

/-- what `(*Mapping).Data()` returns (nil is `[]`) -/
def MappingC.dataBytes (m : MappingC) : Bytes := if m.size.isSome then dataOf (m.values.map pairData) else []

/-- how LeaseSet2 / MetaLeaseSet serialise their options: `Data()` when there are pairs, else `00 00` -/
def optionsBytes (m : MappingC) : Bytes := if m.values.length > 0 then m.dataBytes else [0, 0]

theorem readMappingS_stream (s : Sl) :
    ∃ m rem, readMappingS s = .ok (m, rem, (readMapping s.data).errs.map .m) ∧
      m.dataBytes = (Mapping.data (readMapping s.data)).getD [] ∧
      m.values.length = ((readMapping s.data).vals.getD []).length ∧ rem.data = (readMapping s.data).rem := by
  obtain ⟨m, rem, h, h1, h2, h3⟩ := readMappingS_spec s
  have hv := values_data m
  rw [h2] at hv
  refine ⟨m, rem, h, ?_, by rw [← hv, List.length_map], h3⟩
  rw [MappingC.dataBytes, hv, h1, Mapping.data]
  cases (readMapping s.data).hasSize <;> rfl

theorem warnIfOptionsUnsortedLoopC_ok (ps : List PairS) : warnIfOptionsUnsortedLoopC ps = .ok () := by
  induction ps with
  | nil => rfl
  | cons p t ih =>
    obtain ⟨e, he, -⟩ := i2pStringDataC_spec p.1
    simp only [warnIfOptionsUnsortedLoopC, he, go, ih]

theorem warnIfOptionsUnsortedC_ok (m : MappingC) : warnIfOptionsUnsortedC m = .ok () := by
  simp only [warnIfOptionsUnsortedC, warnIfOptionsUnsortedLoopC_ok]
  split <;> rfl

end I2P.Checked
