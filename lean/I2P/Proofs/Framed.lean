import I2P.Structs
import I2P.Proofs.BytesLemmas
/-! A reader `R : Bytes → Option (Bytes × Bytes)` (bytes of the value read, remainder) is *framed* when the bytes
followed by the remainder are the input, and bytes appended to the input reappear, untouched, at the end of
the remainder.  `FramedFrom pre K` is the same for the rest `K` of a reader that has already produced the
bytes `pre`; the closure lemmas follow the shapes in which the model writes its readers, so that the framing
of a composite reader is read off its definition.  Those about sub-readers of the model (`andThenOff`, `mapping`,
`str`, `andThenKac`) are in `Proofs/StructLemmas.lean`. -/

namespace I2P
open I2P.Structs (P)

/-! Peeling a reader that accepted: `(if c then none else x) = some v` is `Option.ite_none_left_eq_some`; the
    `match`es of the model need one lemma per pattern: a matcher is unfolded by unification, not by `rw` or `simp`,
    and only when the types in the pattern are known (so the lemmas are not stated for `Option (α × β)`). -/

theorem bytes_match_some {γ} {t : Bytes} {K : UInt8 → Bytes → Option γ} {v : γ} :
    (match t with | [] => none | c :: r => K c r) = some v ↔ ∃ c r, t = c :: r ∧ K c r = some v := by
  cases t with
  | nil => simp
  | cons c r => exact ⟨fun h => ⟨c, r, rfl, h⟩, fun ⟨_, _, e, h⟩ => by cases e; exact h⟩

theorem opt_match_some {γ} {o : Option Bytes} {K : Bytes → Option γ} {v : γ} :
    (match o with | none => none | some b => K b) = some v ↔ ∃ b, o = some b ∧ K b = some v := by
  cases o with
  | none => simp
  | some a => exact ⟨fun h => ⟨a, rfl, h⟩, fun ⟨_, e, h⟩ => by cases e; exact h⟩

theorem pair_match_some {γ} {o : P} {K : Bytes → Bytes → Option γ} {v : γ} :
    (match o with | none => none | some (b, r) => K b r) = some v ↔ ∃ b r, o = some (b, r) ∧ K b r = some v := by
  cases o with
  | none => simp
  | some p => exact ⟨fun h => ⟨p.1, p.2, rfl, h⟩, fun ⟨_, _, e, h⟩ => by cases e; exact h⟩

theorem cert_match_some {γ} {o : Option (Kac.Cert × Bytes)} {K : Kac.Cert → Bytes → Option γ} {v : γ} :
    (match o with | none => none | some (c, r) => K c r) = some v ↔ ∃ c r, o = some (c, r) ∧ K c r = some v := by
  cases o with
  | none => simp
  | some p => exact ⟨fun h => ⟨p.1, p.2, rfl, h⟩, fun ⟨_, _, e, h⟩ => by cases e; exact h⟩

theorem keyCert_match_some {γ} {o : Option (Kac.KeyCert × Bytes)} {K : Kac.KeyCert → Bytes → Option γ} {v : γ} :
    (match o with | none => none | some (c, r) => K c r) = some v ↔ ∃ c r, o = some (c, r) ∧ K c r = some v := by
  cases o with
  | none => simp
  | some p => exact ⟨fun h => ⟨p.1, p.2, rfl, h⟩, fun ⟨_, _, e, h⟩ => by cases e; exact h⟩

theorem kac_match_some {γ} {o : Option (Kac.KeysAndCert × Bytes)} {K : Kac.KeysAndCert → Bytes → Option γ} {v : γ} :
    (match o with | none => none | some (k, r) => K k r) = some v ↔ ∃ k r, o = some (k, r) ∧ K k r = some v := by
  cases o with
  | none => simp
  | some p => exact ⟨fun h => ⟨p.1, p.2, rfl, h⟩, fun ⟨_, _, e, h⟩ => by cases e; exact h⟩

theorem triple_match_some {γ} {o : Option (Bytes × Bytes × Nat)} {K : Bytes → Bytes → Nat → Option γ} {v : γ} :
    (match o with | none => none | some (a, b, c) => K a b c) = some v ↔
      ∃ a b c, o = some (a, b, c) ∧ K a b c = some v := by
  cases o with
  | none => simp
  | some p => exact ⟨fun h => ⟨p.1, p.2.1, p.2.2, rfl, h⟩, fun ⟨_, _, _, e, h⟩ => by cases e; exact h⟩

structure FramedFrom (pre : Bytes) (K : Bytes → P) : Prop where
  consumed : ∀ {r b rem}, K r = some (b, rem) → b ++ rem = pre ++ r
  append : ∀ {r b rem}, K r = some (b, rem) → ∀ x, K (r ++ x) = some (b, rem ++ x)

abbrev Framed (R : Bytes → P) : Prop := FramedFrom [] R

namespace Framed
variable {R : Bytes → P} {d b r : Bytes}

theorem consumed' (hR : Framed R) (h : R d = some (b, r)) : b ++ r = d := hR.consumed h

end Framed

namespace FramedFrom
variable {pre : Bytes}

theorem no_prefix {K : Bytes → P} (hK : FramedFrom pre K) {d b : Bytes} (h : K d = some (b, []))
    {k : Nat} (hk : k < d.length) : K (d.take k) = none :=
  no_prefix_of_append' K (·.2) (fun h x => ⟨_, hK.append h x, rfl⟩) h rfl hk

/-- to know what a framed reader returns on an input it consumes completely, it is enough to evaluate the
    remainder -/
theorem eq_of_rem_nil {K : Bytes → P} (hK : FramedFrom pre K) {d : Bytes} (h : (K d).map (·.2) = some []) :
    K d = some (pre ++ d, []) := by
  cases hd : K d with
  | none => rw [hd] at h; cases h
  | some v =>
    obtain ⟨b, r⟩ := v
    rw [hd] at h
    cases h
    rw [← hK.consumed hd, List.append_nil]

theorem ret : FramedFrom pre (fun r => some (pre, r)) where
  consumed h := by cases h; rfl
  append h x := by cases h; rfl

theorem guard (c : Prop) [Decidable c] {K : Bytes → P} (hK : ¬ c → FramedFrom pre K) :
    FramedFrom pre (fun r => if c then none else K r) where
  consumed h := by
    obtain ⟨hc, h⟩ := Option.ite_none_left_eq_some.mp h
    exact (hK hc).consumed h
  append h x := by
    obtain ⟨hc, h⟩ := Option.ite_none_left_eq_some.mp h
    rw [if_neg hc]; exact (hK hc).append h x

/-- one byte sliced off without a length check (`d.take 1`, `d.drop 1` in `K`): on the empty input the rest
    of the reader must fail -/
theorem byteU {K : Bytes → P} (hnil : K [] = none) (hK : ∀ c, FramedFrom (pre ++ [c]) (fun r => K (c :: r))) :
    FramedFrom pre K where
  consumed {r} _ _ h := by
    cases r with
    | nil => rw [hnil] at h; cases h
    | cons c r => have := (hK c).consumed h; rwa [List.append_assoc] at this
  append {r} _ _ h x := by
    cases r with
    | nil => rw [hnil] at h; cases h
    | cons c r => exact (hK c).append h x

theorem byte {K : UInt8 → Bytes → P} (hK : ∀ c, FramedFrom (pre ++ [c]) (K c)) :
    FramedFrom pre (fun r => match r with | [] => none | c :: r => K c r) :=
  byteU rfl hK

theorem andThen {R : Bytes → P} (hR : Framed R) {K : Bytes → Bytes → P} (hK : ∀ b, FramedFrom (pre ++ b) (K b)) :
    FramedFrom pre (fun d => match R d with | none => none | some (b, r) => K b r) where
  consumed h := by
    obtain ⟨b, r, hd, h⟩ := pair_match_some.mp h
    rw [(hK b).consumed h, List.append_assoc, hR.consumed' hd]
  append h x := by
    obtain ⟨b, r, hd, h⟩ := pair_match_some.mp h
    exact pair_match_some.mpr ⟨b, r ++ x, hR.append hd x, (hK b).append h x⟩

/-- after a length check the first `n` bytes are cut off: what follows sees the input as `f ++ r` with
    `f.length = n`, and every window inside `f` is a window of `f` -/
theorem cut (n : Nat) {m : Nat} {K : Bytes → P} (hK : ∀ f, f.length = n → FramedFrom (pre ++ f) (fun r => K (f ++ r)))
    (hnm : n ≤ m := by omega) :
    FramedFrom pre (fun d => if d.length < m then none else K d) := by
  have split : ∀ d : Bytes, ¬d.length < m → ∃ f r, f.length = n ∧ d = f ++ r := fun d hd =>
    ⟨d.take n, d.drop n, List.length_take_of_le (by omega), (List.take_append_drop n d).symm⟩
  constructor
  · intro d _ _ h
    obtain ⟨hc, h⟩ := Option.ite_none_left_eq_some.mp h
    obtain ⟨f, r, hf, rfl⟩ := split d hc
    rw [(hK f hf).consumed h, List.append_assoc]
  · intro d _ _ h x
    obtain ⟨hc, h⟩ := Option.ite_none_left_eq_some.mp h
    obtain ⟨f, r, hf, rfl⟩ := split d hc
    rw [if_neg (by rw [List.length_append]; omega), List.append_assoc]
    exact (hK f hf).append h x

theorem take (n : Nat) {K : Bytes → Bytes → P} (hK : ∀ f, f.length = n → FramedFrom (pre ++ f) (K f)) :
    FramedFrom pre (fun d => if d.length < n then none else K (d.take n) (d.drop n)) :=
  cut n fun f hf => by rw [show (fun r => K ((f ++ r).take n) ((f ++ r).drop n)) = K f from
    funext fun r => by rw [List.take_left' hf, List.drop_left' hf]]; exact hK f hf

theorem minLen (m : Nat) {K : Bytes → P} (hK : FramedFrom pre K) :
    FramedFrom pre (fun r => if r.length < m then none else K r) :=
  cut 0 fun f hf => by
    obtain rfl := List.eq_nil_of_length_eq_zero hf
    rwa [List.append_nil]

end FramedFrom

end I2P
