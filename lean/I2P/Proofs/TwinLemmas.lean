import I2P.Twins
import I2P.Proofs.DataLemmas
import I2P.Proofs.TableLemmas
/-! Helper lemmas for `Props/C19b.lean`: the twin entry points of `I2P/Twins.lean` against the readers and
    constructors already modelled.  A fixed-size reader cuts `n` bytes off the front, the exact-length constructor
    accepts `n` bytes and nothing else (`readFixedN_iff`, `setBytes_iff`); the certificate builder is compared with the
    direct constructors through an invariant of its reachable states (`CertBuilder.Inv`). -/
namespace I2P.Twins
open I2P.Spec I2P.Kac I2P.Structs

theorem ptrOf_eq {α : Type} : (r : Option (α × Bytes)) → ptrOf r = r
  | none | some (_, _) => rfl

theorem readFixedN_iff {n : Nat} {d s r : Bytes} : readFixedN n d = some (s, r) ↔ s.length = n ∧ s ++ r = d := by
  unfold readFixedN
  rw [Option.ite_none_left_eq_some, Option.some.injEq, Prod.mk.injEq]
  constructor
  · rintro ⟨h, rfl, rfl⟩
    exact ⟨List.length_take_of_le (by omega), List.take_append_drop n d⟩
  · rintro ⟨rfl, rfl⟩
    exact ⟨by simp, List.take_left, List.drop_left⟩

theorem setBytes_iff {n : Nat} {d s : Bytes} : setBytes n d = some s ↔ s.length = n ∧ s = d := by
  unfold setBytes
  rw [Option.ite_none_left_eq_some, Option.some.injEq, Decidable.not_not]
  exact ⟨fun ⟨h, e⟩ => e ▸ ⟨h, rfl⟩, fun ⟨h, e⟩ => e ▸ ⟨h, rfl⟩⟩

theorem setBytes_iff_readFixedN (n : Nat) (d s : Bytes) :
    setBytes n d = some s ↔ readFixedN n d = some (s, []) := by
  rw [setBytes_iff, readFixedN_iff, List.append_nil]

theorem readFixedN_longer (n : Nat) (d s r : Bytes) (h : readFixedN n d = some (s, r)) (hr : r ≠ []) :
    setBytes n d = none ∧ setBytes n s = some s := by
  obtain ⟨hl, rfl⟩ := readFixedN_iff.mp h
  have hr' := List.length_pos_iff.mpr hr
  refine ⟨?_, setBytes_iff.mpr ⟨hl, rfl⟩⟩
  unfold setBytes
  rw [if_pos (by rw [List.length_append]; omega)]

theorem readFixedN_short (n : Nat) (d : Bytes) (h : d.length < n) : readFixedN n d = none ∧ setBytes n d = none :=
  ⟨if_pos h, if_pos (by omega)⟩

theorem getSignatureLength_spec (t : Int) :
    getSignatureLength t = if t < 0 then none else if sigLen t.toNat = 0 then none else some (sigLen t.toNat) := by
  unfold getSignatureLength
  by_cases h0 : t < 0
  · rw [if_pos (Or.inl h0), if_pos h0]
  · rw [if_neg h0]
    by_cases h1 : t > 65535
    · rw [if_pos (Or.inr h1), sigLen_big (by omega), if_pos rfl]
    · rw [if_neg (by omega)]
      match t.toNat with
      | 0 | 1 | 2 | 3 | 4 | 5 | 6 | 7 | 8 | 9 | 10 | 11 => rfl
      | k + 12 => rfl

theorem getSignatureLength_pos {t : Int} {n : Nat} (h : getSignatureLength t = some n) : 0 ≤ t ∧ sigLen t.toNat = n ∧ n ≠ 0 := by
  rw [getSignatureLength_spec, Option.ite_none_left_eq_some, Option.ite_none_left_eq_some, Option.some.injEq] at h
  exact ⟨by omega, h.2.2, h.2.2 ▸ h.2.1⟩

/-- `ReadSignature` as the Go code is written; the model goes through `Structs.readSig` -/
theorem readSignature_eq (d : Bytes) (t : Int) :
    readSignature d t = match getSignatureLength t with | none => none | some n => readFixedN n d := by
  rw [getSignatureLength_spec]
  unfold readSignature
  by_cases h0 : t < 0
  · rw [if_pos h0, if_pos h0]
  · rw [if_neg h0, if_neg h0]
    unfold readSig
    by_cases h1 : sigLen t.toNat = 0
    · simp only [h1, if_true]
    · simp only [h1, if_false]; rfl

theorem newSignatureFromBytes_eq (d : Bytes) (t : Int) :
    newSignatureFromBytes d t = match getSignatureLength t with | none => none | some n => setBytes n d := rfl

theorem readECIESSessionTag_eq (d : Bytes) : readECIESSessionTag d = readFixedN 8 d := by
  unfold readECIESSessionTag readFixedN newECIESSessionTagFromBytes setBytes
  by_cases h : d.length < 8
  · rw [if_pos h, if_pos h]
  · rw [if_neg h, if_neg h, if_neg (by rw [List.length_take]; omega)]

theorem putUint16_length (v : Int) : (putUint16 v).length = 2 := beEnc_length 2 _

theorem keyTypePayload_length (s c : Int) : (putUint16 s ++ putUint16 c).length = 4 := by
  rw [List.length_append, putUint16_length, putUint16_length]

theorem beVal_putUint16 (v : Int) (h0 : 0 ≤ v) (h1 : v ≤ 65535) : beVal (putUint16 v) = v.toNat := by
  unfold putUint16
  obtain ⟨m, rfl⟩ := Int.eq_ofNat_of_zero_le h0
  rw [toUInt64_natCast (by omega), Nat.mod_eq_of_lt (by omega), beVal_beEnc 2 m (by omega), Int.toNat_natCast]

theorem isValidCertType_eq : ∀ t, isValidCertType t = decide (t ≤ 5)
  | 0 | 1 | 2 | 3 | 4 | 5 => rfl
  | _ + 6 => (decide_eq_false (by omega)).symm

theorem withType_eq (cb : CertBuilder) (t : Nat) :
    cb.withType t = if t ≤ 5 then some { cb with certType := t } else none := by
  unfold CertBuilder.withType
  rw [isValidCertType_eq]
  by_cases h : t ≤ 5
  · rw [if_pos h, if_neg (by simp [h])]
  · rw [if_neg h, if_pos (by simp [h])]

theorem withType_some {cb cb' : CertBuilder} {t : Nat} :
    cb.withType t = some cb' ↔ t ≤ 5 ∧ cb' = { cb with certType := t } := by
  rw [withType_eq, Option.ite_none_right_eq_some, Option.some.injEq, eq_comm]

theorem withKeyTypes_eq (cb : CertBuilder) (s c : Int) :
    cb.withKeyTypes s c = if 0 ≤ s ∧ s ≤ 65535 ∧ 0 ≤ c ∧ c ≤ 65535 then
      some { cb with certType := 5, signingType := some s, cryptoType := some c, payloadSet := false } else none := by
  fun_cases CertBuilder.withKeyTypes cb s c
  · rw [if_neg (by omega)]
  · rw [if_neg (by omega)]
  · rw [if_neg (by omega)]
  · rw [if_neg (by omega)]
  · rw [if_pos (by omega)]

theorem buildKeyTypePayload_eq (s c : Int) :
    buildKeyTypePayload s c = if 0 ≤ s ∧ s ≤ 65535 ∧ 0 ≤ c ∧ c ≤ 65535 then some (putUint16 s ++ putUint16 c) else none := by
  fun_cases buildKeyTypePayload s c
  · rw [if_neg (by omega)]
  · rw [if_neg (by omega)]
  · rw [if_neg (by omega)]
  · rw [if_neg (by omega)]
  · rw [if_pos (by omega)]

theorem withKeyTypes_some {cb cb' : CertBuilder} {s c : Int} :
    cb.withKeyTypes s c = some cb' ↔ (0 ≤ s ∧ s ≤ 65535 ∧ 0 ≤ c ∧ c ≤ 65535) ∧
      cb' = { cb with certType := 5, signingType := some s, cryptoType := some c, payloadSet := false } := by
  rw [withKeyTypes_eq, Option.ite_none_right_eq_some, Option.some.injEq, eq_comm]

/-- what every reachable builder state satisfies -/
structure CertBuilder.Inv (cb : CertBuilder) : Prop where
  typeOk : isValidCertType cb.certType = true
  both : cb.signingType.isSome = cb.cryptoType.isSome
  range : ∀ s c, cb.signingType = some s → cb.cryptoType = some c → 0 ≤ s ∧ s ≤ 65535 ∧ 0 ≤ c ∧ c ≤ 65535
  noSource : cb.payloadSet = false → cb.signingType = none → cb.payload = []

theorem inv_new : newCertBuilder.Inv := ⟨rfl, rfl, nofun, fun _ _ => rfl⟩

theorem inv_withType {cb cb' : CertBuilder} {t : Nat} (hi : cb.Inv) (h : cb.withType t = some cb') : cb'.Inv := by
  obtain ⟨ht, rfl⟩ := withType_some.mp h
  exact ⟨(isValidCertType_eq t).trans (decide_eq_true ht), hi.both, hi.range, hi.noSource⟩

theorem inv_withKeyTypes {cb cb' : CertBuilder} {s c : Int} (h : cb.withKeyTypes s c = some cb') : cb'.Inv := by
  obtain ⟨hr, rfl⟩ := withKeyTypes_some.mp h
  exact ⟨rfl, rfl, fun _ _ hs hc => Option.some.inj hs ▸ Option.some.inj hc ▸ hr, nofun⟩

theorem inv_withPayload {cb : CertBuilder} (hi : cb.Inv) (p : Bytes) : (cb.withPayload p).Inv :=
  ⟨hi.typeOk, hi.both, hi.range, nofun⟩

theorem inv_step {cb : CertBuilder} (hi : cb.Inv) (s : Step) : (cb.step s).1.Inv := by
  fun_cases CertBuilder.step cb s
  · exact inv_withType hi ‹_›
  · exact hi
  · exact inv_withPayload hi _
  · exact inv_withKeyTypes ‹_›
  · exact hi

theorem inv_run : ∀ (steps : List Step) {cb : CertBuilder}, cb.Inv → (cb.run steps).Inv
  | [], _, hi => hi
  | s :: rest, _, hi => inv_run rest (inv_step hi s)

theorem build_eq_direct_of_inv {cb : CertBuilder} (hi : cb.Inv) : cb.build = cb.direct := by
  obtain ⟨t, payload, sg, cr, ps⟩ := cb
  obtain ⟨hT, hB, hR, hN⟩ := hi
  simp only at hT hB hR hN
  unfold CertBuilder.build CertBuilder.validate CertBuilder.validateKeyCertificateFields
    CertBuilder.buildPayloadIfNeeded CertBuilder.direct
  match ps, sg, cr with
  | _, some _, none | _, none, some _ => cases hB
  -- an explicit payload: nothing to build, and `Validate` has no objection
  | true, none, none | true, some _, some _ => simp [hT]
  -- key types: both routes make the payload from them
  | false, some s, some c =>
    simp [hT, buildKeyTypePayload_eq, hR s c rfl rfl, CertBuilder.keyTypePayload]
  -- no payload source: the payload is still empty; a KEY certificate is refused, by `Validate` here and by `direct` there
  | false, none, none =>
    obtain rfl : payload = [] := hN rfl rfl
    by_cases h5 : t = 5
    · simp [h5]
    · by_cases h02 : t = 0 ∨ t = 2 <;> simp [hT, h5, h02]

theorem validSigningType_range {s : Int} (hs : validSigningType s = true) : 0 ≤ s ∧ s ≤ 65535 := by
  unfold validSigningType at hs
  split at hs
  · omega
  · have := of_decide_eq_true hs
    omega

theorem validCryptoType_range {c : Int} (hc : validCryptoType c = true) : 0 ≤ c ∧ c ≤ 65535 := by
  unfold validCryptoType at hc
  split at hc
  · omega
  · have := of_decide_eq_true hc
    omega

/-- the KEY certificate `NewCertificateWithType(KEY, p)` builds from a four-byte payload -/
def keyCertOf (p : Bytes) : Cert := { kind := [UInt8.ofNat 5], len := beEnc 2 4, payload := p }

theorem newCertWithType_key (p : Bytes) (hl : p.length = 4) : newCertWithType 5 p = some (keyCertOf p) := by
  unfold newCertWithType keyCertOf
  rw [if_neg (by omega), if_neg (by omega), if_neg (by omega), if_neg (by omega), if_neg (by omega), hl]

theorem keyCertFromCert_key {a b : Bytes} (ha : a.length = 2) (hb : b.length = 2) :
    keyCertFromCert (keyCertOf (a ++ b)) = some { cert := keyCertOf (a ++ b), spk := beVal a, cpk := beVal b } := by
  have ht : (keyCertOf (a ++ b)).type = 5 := by show beVal [UInt8.ofNat 5] = 5; decide
  have hd : (keyCertOf (a ++ b)).data = a ++ b :=
    List.take_of_length_le (show (a ++ b).length ≤ beVal (beEnc 2 4) by rw [List.length_append, ha, hb]; decide)
  unfold keyCertFromCert
  rw [if_neg (by rw [ht]; simp)]
  simp only [hd]
  rw [if_neg (by rw [List.length_append]; omega), List.take_left' ha, List.drop_left' ha,
    List.take_of_length_le (Nat.le_of_eq hb)]

theorem newKeyCertWithTypes_eq (s c : Int) :
    newKeyCertWithTypes s c = if validSigningType s = true ∧ validCryptoType c = true then
      some { cert := keyCertOf (putUint16 s ++ putUint16 c), spk := s.toNat, cpk := c.toNat } else none := by
  unfold newKeyCertWithTypes buildKeyCertificatePayload
  by_cases h : validSigningType s = true ∧ validCryptoType c = true
  · obtain ⟨s0, s1⟩ := validSigningType_range h.1
    obtain ⟨c0, c1⟩ := validCryptoType_range h.2
    simp only [h.1, h.2, and_self, if_true, Bool.not_true, Bool.false_eq_true, if_false,
      newCertWithType_key _ (keyTypePayload_length s c),
      keyCertFromCert_key (putUint16_length s) (putUint16_length c), beVal_putUint16 s s0 s1, beVal_putUint16 c c0 c1]
  · rw [if_neg h]
    cases hs : validSigningType s
    · rfl
    · cases hc : validCryptoType c
      · rfl
      · exact absurd ⟨hs, hc⟩ h

end I2P.Twins
