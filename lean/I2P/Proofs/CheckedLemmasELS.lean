import I2P.Proofs.CheckedLemmas
import I2P.Proofs.StructLemmas
/-! The parse helpers of `ReadEncryptedLeaseSet` (`I2P/Checked.lean`).  The pure `readELS` is signing type and blinded
    key, then `elsCont` (`Proofs/StructLemmas.lean`); `elsRestC` is the checked counterpart of `elsCont`, and
    `readELSS_any_slice` (`Props/C04.lean`) puts the two stages in front of `elsRestC_spec`. -/

namespace I2P.Checked
open I2P.Spec I2P.Structs
attribute [local congr] Go.bind_congr

theorem elsParseSigTypeC_eq (els : ELS) (s : Sl) (h : 2 ≤ s.len) :
    elsParseSigTypeC els s = .ok (if sigPubSize (beVal (s.data.take 2)) = 0 then none
      else some ({ els with sigType := beVal (s.data.take 2) }, s.drop 2)) := by
  unfold elsParseSigTypeC
  have h' : ¬ s.len < 2 := by omega
  by_cases h0 : sigPubSize (beVal (s.data.take 2)) = 0 <;> go_simp [h', h0]

theorem elsParseBlindedPublicKeyC_eq (els : ELS) (s : Sl) :
    elsParseBlindedPublicKeyC els s = .ok (if s.len < sigPubSize els.sigType then none
      else some ({ els with blindedPublicKey := s.data.take (sigPubSize els.sigType) }, s.drop (sigPubSize els.sigType))) := by
  unfold elsParseBlindedPublicKeyC
  by_cases h : s.len < sigPubSize els.sigType
  · simp only [go, h]
  · obtain ⟨hto, hfrom, hlen⟩ := take_drop_ok (Nat.le_of_not_lt h)
    simp only [go, h, hto, hfrom, copy_whole hlen]

theorem elsParseHeaderFieldsC_eq (els : ELS) (s : Sl) :
    elsParseHeaderFieldsC els s = .ok (if s.len < 8 then none
      else if beVal ((s.data.drop 6).take 2) / 4 ≠ 0 then none
      else some ({ els with published := beVal (s.data.take 4), expires := beVal ((s.data.drop 4).take 2), flags := beVal ((s.data.drop 6).take 2) },
                 s.drop 8)) := by
  unfold elsParseHeaderFieldsC
  by_cases h : s.len < 8
  · go_simp [h]
  · go_simp [h]
    split <;> rfl

theorem elsParseEncryptedInnerDataC_eq (els : ELS) (s : Sl) :
    elsParseEncryptedInnerDataC els s = .ok (if s.len < 2 then none
      else if beVal (s.data.take 2) = 0 then none
      else if s.len - 2 < beVal (s.data.take 2) then none
      else some ({ els with innerLength := beVal (s.data.take 2), encryptedInnerData := (s.data.drop 2).take (beVal (s.data.take 2)) },
                 s.drop (2 + beVal (s.data.take 2)))) := by
  unfold elsParseEncryptedInnerDataC
  by_cases h : s.len < 2
  · go_simp [h]
  by_cases h0 : beVal (s.data.take 2) = 0
  · go_simp [h, h0]
  by_cases hk : s.len - 2 < beVal (s.data.take 2)
  · go_simp [h, h0, hk]
  · obtain ⟨hto, hfrom, hlen⟩ := take_drop_ok (s := s.drop 2) (Nat.le_of_not_lt hk)
    go_simp [h, h0, hk, hto, hfrom, copy_whole hlen]

theorem elsParseOfflineSignatureC_spec (els : ELS) (s : Sl) (ho : els.offlineSignature = none) :
    ∃ r, elsParseOfflineSignatureC els s = .ok r ∧
      match r with
      | none => offStage els.flags s.data els.sigType = none
      | some (e, rem) => ∃ oo : Option OffSig, e = { els with offlineSignature := oo } ∧ (oo.isSome ↔ els.flags % 2 = 1) ∧
          offStage els.flags s.data els.sigType = some (offBytes oo, rem.data, offSigT oo els.sigType) := by
  unfold elsParseOfflineSignatureC ELS.hasOfflineKeys offStage
  by_cases hf : els.flags % 2 = 1
  · rcases refines_cases (readOffSigS_spec s els.sigType) with ⟨hc, hp⟩ | ⟨⟨o, rem⟩, hc, hp⟩ <;> simp only [go, hf, hc, hp]
    exact ⟨some o, rfl, by simp, rfl⟩
  · simp only [go, hf]
    exact ⟨none, by rw [← ho], by simp, rfl⟩

theorem elsParseSignatureAndFinalizeC_spec (els : ELS) (s : Sl) (hoff : els.offlineSignature.isSome ↔ els.flags % 2 = 1) :
    ∃ r, elsParseSignatureAndFinalizeC els s = .ok r ∧
      match r with
      | none => readSig s.data (offSigT els.offlineSignature els.sigType) = none
      | some (e, rem) => ∃ sb, e = { els with signature := sb, signatureType := (offSigT els.offlineSignature els.sigType : Nat) } ∧
          readSig s.data (offSigT els.offlineSignature els.sigType) = some (sb, rem.data) := by
  have hty : (if (els.hasOfflineKeys && els.offlineSignature.isSome) = true then do
        let o ← deref els.offlineSignature
        pure (o.sigtype : Int)
      else pure (els.sigType : Int) : Go Int) = .ok ((offSigT els.offlineSignature els.sigType : Nat) : Int) := by
    simp only [ELS.hasOfflineKeys, offSigT, deref, go]
    cases ho : els.offlineSignature with
    | none => simp
    | some o => simp [hoff.mp (by simp [ho])]
  unfold elsParseSignatureAndFinalizeC
  rw [hty]
  rcases refines_cases (readSigS_spec s (offSigT els.offlineSignature els.sigType)) with ⟨hc, hp⟩ | ⟨⟨sb, rem⟩, hc, hp⟩ <;>
    simp only [go, hc, hp]
  exact ⟨sb, rfl, rfl⟩

/-- `Validate()` on a value the parse helpers produced re-checks what they established; only `expires ≠ 0` and
    `61 ≤ innerLength` are new -/
theorem ELS.validateC_parsed {e : ELS} (hk : sigPubSize e.sigType ≠ 0) (hb : e.blindedPublicKey.length = sigPubSize e.sigType)
    (hf : e.flags / 4 = 0) (ho : e.offlineSignature.isSome ↔ e.flags % 2 = 1)
    (hi0 : e.innerLength ≠ 0) (hi : e.encryptedInnerData.length = e.innerLength) (hi16 : e.innerLength < 65536)
    (hs : getSignatureLengthC e.signatureType = some (e.signature.length : Int)) :
    e.validateC = decide (e.expires ≠ 0 ∧ ¬ e.innerLength < 61) := by
  have hflag : e.hasOfflineKeys = e.offlineSignature.isSome := by
    rw [ELS.hasOfflineKeys, Bool.eq_iff_iff, decide_eq_true_iff]; exact ho.symm
  have hO : ¬ (e.hasOfflineKeys = true ∧ e.offlineSignature.isNone = true) ∧
      ¬ ((!e.hasOfflineKeys) = true ∧ e.offlineSignature.isSome = true) := by
    rw [hflag, ← Option.not_isSome]; cases e.offlineSignature.isSome <;> decide
  simp only [ELS.validateC, hk, hb, hf, hO, hi, hi0, Nat.mod_eq_of_lt hi16, hs, ne_eq, not_false_eq_true, and_self, and_true, true_and]

/-- `parseAllEncryptedLeaseSetFields` after signing type and blinded key -/
def elsRestC (els : ELS) (data : Sl) : Go (Option (ELS × Sl)) := do
  match ← elsParseHeaderFieldsC els data with
  | none => return none
  | some (els, data) =>
  match ← elsParseOfflineSignatureC els data with
  | none => return none
  | some (els, data) =>
  match ← elsParseEncryptedInnerDataC els data with
  | none => return none
  | some (els, data) => elsParseSignatureAndFinalizeC els data

theorem elsParseAllFieldsC_eq (els : ELS) (data : Sl) : elsParseAllFieldsC els data = (do
    match ← elsParseSigTypeC els data with
    | none => return none
    | some (els, data) =>
    match ← elsParseBlindedPublicKeyC els data with
    | none => return none
    | some (els, data) => elsRestC els data) := rfl

/-- what the rest of the parse yields passes `Validate()` exactly when the pure model accepts, and then re-serialises
    to the pure model's bytes -/
theorem elsRestC_spec (els : ELS) (s : Sl) (ho : els.offlineSignature = none) (hk : sigPubSize els.sigType ≠ 0)
    (hb : els.blindedPublicKey.length = sigPubSize els.sigType) :
    ∃ r, elsRestC els s = .ok r ∧
      elsCont (beEnc 2 els.sigType ++ els.blindedPublicKey) els.sigType s.data =
        r.bind fun p => if p.1.validateC = true then some (p.1.bytes, p.2.data) else none := by
  unfold elsRestC elsCont
  rw [elsParseHeaderFieldsC_eq]
  by_cases h8 : s.len < 8
  · simp only [go, h8, Option.bind_none]
  have bh := hdr_split s.data (by bounds)
  generalize beVal (s.data.take 4) = pu at bh
  generalize beVal ((s.data.drop 4).take 2) = ex at bh
  generalize beVal ((s.data.drop 6).take 2) = fl at bh
  by_cases hf4 : fl / 4 = 0
  case neg => simp only [go, h8, hf4, Option.bind_none]
  simp only [go, h8, hf4]
  refine bind_spec (elsParseOfflineSignatureC_spec _ _ ho) ?_
  rintro (_ | ⟨e4, s4⟩) hm <;> simp only [go] at hm
  · simp only [go, hm, Option.bind_none]
  obtain ⟨oo, rfl, hoo, hv⟩ := hm
  simp only [go, hv, elsParseEncryptedInnerDataC_eq]
  by_cases h2 : s4.len < 2
  · simp only [go, h2, Option.bind_none]
  have bi := beEnc_beVal_take s4.data 0 2 (by bounds)
  have hil16 : beVal (s4.data.take 2) < 65536 := beVal_lt_of_le (k := 2) (by bounds)
  rw [List.drop_zero] at bi
  generalize beVal (s4.data.take 2) = il at bi hil16
  by_cases hi0 : il = 0
  · simp only [go, h2, hi0, Option.bind_none]
  by_cases hik : s4.len - 2 < il
  · simp only [go, h2, hi0, hik, Option.bind_none]
  simp only [go, h2, hi0, hik]
  obtain ⟨r, hr, hm⟩ := elsParseSignatureAndFinalizeC_spec
    { els with published := pu, expires := ex, flags := fl, offlineSignature := oo, innerLength := il,
               encryptedInnerData := (s4.data.drop 2).take il } (s4.drop (2 + il)) hoo
  refine ⟨r, hr, ?_⟩
  simp only [go] at hm
  rcases r with _ | ⟨e6, s6⟩ <;> simp only [] at hm
  · simp only [hm, Option.bind_none]
  obtain ⟨sb, he6, hsig⟩ := hm
  have hval : e6.validateC = decide (ex ≠ 0 ∧ ¬ il < 61) := by
    rw [he6]
    exact ELS.validateC_parsed hk hb hf4 hoo hi0 (by bounds) hil16
      (by simp only []; rw [getSignatureLengthC_of_sigLen (readSig_some.mp hsig).1, readSig_length hsig])
  simp only [hsig, Option.bind_some, hval]
  by_cases he0 : ex = 0
  · simp [he0]
  by_cases h61 : il < 61
  · simp [h61]
  simp only [he0, h61, ne_eq, not_false_eq_true, and_self, decide_true, if_true]
  rw [he6, ← bh, ← bi]; rfl

/-- projection of a parsed EncryptedLeaseSet on what the pure model returns -/
def vELS (r : Option (ELS × Sl)) : Option (Bytes × Bytes) := r.map fun p => (p.1.bytes, p.2.data)

end I2P.Checked
