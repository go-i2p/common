import I2P.Checked3LS
import I2P.Proofs.CheckedLemmas
import I2P.Proofs.StructLemmas
/-! `lease_set.ReadLeaseSet` and its helpers (`I2P/Checked3LS.lean`), in the pattern of `CheckedLemmas.lean`: an
    `_eq`/`_spec` lemma per mirror.  The property theorems are in `Props/C04c.lean`. -/

namespace I2P.Checked
open I2P.Spec I2P.Kac I2P.Structs
attribute [local congr] Go.bind_congr

/-- the facts about a parsed destination that the rest of `ReadLeaseSet` relies on -/
structure DestOK (k : KeysAndCert) : Prop where
  hk : k.kc.cert.kind.length = 1
  hl : k.kc.cert.len.length = 2
  hs : sigConstructible k.kc.spk = true
  hty : k.kc.cert.type = 5 → keyCertFromCert k.kc.cert = some k.kc

theorem DestOK_of_readDestination {w : Bytes} {k : KeysAndCert} {r : Bytes}
    (h : readDestination w = some (k, r)) : DestOK k := by
  have a := readKac_iff.mp (readDestination_iff.mp h).1
  obtain ⟨hk, hl⟩ := readCert_lengths a.cert.read
  refine ⟨hk, hl, a.signing, fun h5 => ?_⟩
  rcases a.cert.types with ⟨-, hkc⟩ | ⟨h0, -, -⟩
  · exact hkc
  · rw [(kind_five hk).mp h5] at h0
    cases h0

theorem dest_cert_kind {d : Bytes} {c : Cert} {rc : Bytes} {k : KeysAndCert} {r : Bytes}
    (hc : readCert (d.drop 384) = some (c, rc))
    (hd : readDestination (d.take (387 + c.declared)) = some (k, r)) : k.kc.cert.kind = c.kind := by
  obtain ⟨_, rfl, _, _⟩ := readCert_some.mp hc
  rw [(readKac_iff.mp (readDestination_iff.mp hd).1).kind]
  exact window_take (Nat.le_trans (by decide) (Nat.le_add_right 387 _))

theorem keyCertificateFromCertificateC_eq {c : Cert} (hk : c.kind.length = 1) (hl : c.len.length = 2) :
    keyCertificateFromCertificateC (some c) = .ok (keyCertFromCert c) := by
  obtain ⟨d, hd, hdd⟩ := certDataC_spec hk hl
  have hdl : d.len = c.data.length := by rw [← hdd, Sl.data_length]
  unfold keyCertificateFromCertificateC keyCertFromCert logExtractedKeyTypesC buildKeyCertificateC
  by_cases ht : c.type = 5
  case neg => simp only [go, validateKeyCertificateTypeC_eq hk hl, ht]
  by_cases h4 : 4 ≤ c.data.length
  case neg =>
    simp only [go, validateKeyCertificateTypeC_eq hk hl, ht, hd, validateKeyCertificateDataLengthC_eq, hdl, h4,
      Nat.lt_of_not_le h4]
  simp only [go, validateKeyCertificateTypeC_eq hk hl, ht, hd, validateKeyCertificateDataLengthC_eq, hdl, h4,
    Nat.not_lt_of_le h4, extractKeyTypesC_eq d (by omega), integerIntC'_some, deref, hdd]

theorem DestOK.keyCert {k : KeysAndCert} (hk : DestOK k) :
    keyCertificateFromCertificateC (some k.kc.cert) = .ok (if k.kc.cert.type = 5 then some k.kc else none) := by
  rw [keyCertificateFromCertificateC_eq hk.hk hk.hl]
  by_cases h5 : k.kc.cert.type = 5
  · rw [if_pos h5, hk.hty h5]
  · rw [if_neg h5, keyCertFromCert_eq, if_pos h5]

theorem newElgPublicKeyC_eq (d : Sl) (h : d.len = 256) :
    newElgPublicKeyC d = .ok (if !elgValid d.data then none else some d.data) := by
  unfold newElgPublicKeyC
  by_cases hv : elgValid d.data = false <;> go_simp [h, hv, copy_whole h]

theorem newDSAPublicKeyC_eq (d : Sl) (h : d.len = 128) :
    newDSAPublicKeyC d = .ok (if !dsaValid d.data then none else some d.data) := by
  unfold newDSAPublicKeyC
  by_cases hv : dsaValid d.data = false <;> go_simp [h, hv, copy_whole h]

theorem newSignatureFromBytesC_eq (d : Sl) (t : Nat) (h0 : sigLen t ≠ 0) (h : d.len = sigLen t) :
    newSignatureFromBytesC d (t : Int) = .ok (some (d.data, (t : Int))) := by
  unfold newSignatureFromBytesC
  go_simp [getSignatureLengthC_of_sigLen h0, h, copy_whole h]

theorem lsParseCertificateFromLeaseSetC_eq (s : Sl) (n : Int) (h : 0 ≤ n ∧ n ≤ s.len) :
    lsParseCertificateFromLeaseSetC s n =
      .ok ((readCert (s.data.drop n.toNat)).map (fun p => ((p.1.type : Int), (p.1.declared : Int)))) := by
  unfold lsParseCertificateFromLeaseSetC
  rcases refines_cases (readCertS_spec (s.drop n.toNat)) with ⟨hc, hp⟩ | ⟨⟨c, rem⟩, hc, hp⟩
  · simp only [go] at hp
    go_simp [hc, hp]
  · simp only [go] at hp
    obtain ⟨hk, hl⟩ := readCert_lengths hp
    go_simp [hc, hp, certTypeC_eq hk hl, certLengthFieldC_eq hk hl]

theorem lsExtractDestinationFromDataC_eq (s : Sl) (n : Nat) (h : n ≤ s.len) :
    lsExtractDestinationFromDataC s n =
      .ok ((readDestination (s.data.take n)).map fun p => (some p.1, s.drop n)) := by
  unfold lsExtractDestinationFromDataC
  obtain ⟨hto, hfrom, -⟩ := take_drop_ok h
  rcases refines_cases (readDestinationS_spec (s.take n)) with ⟨hd, hp⟩ | ⟨⟨k, r0⟩, hd, hp⟩ <;>
    simp only [go] at hp <;> simp only [go, hto, hfrom, hd, hp]

/-- what a successful `ReadDestinationFromLeaseSet` has found: the destination `k` the pure `readLeaseSet` reads and the
    rest of the input, on which the pure model continues with `lsCont`.  A definition, so that `simp` leaves this arm
    of the `match` below alone while it evaluates the program (written out, `readLeaseSet_eq` would unfold in it) -/
def DestFound (s : Sl) (dest : Dest) (rem : Sl) : Prop :=
  ∃ k db n, dest = some k ∧ DestOK k ∧ k.bytes = some db ∧ 387 ≤ n ∧ n ≤ s.len ∧ rem = s.drop n ∧
    readLeaseSet s.data = lsCont db (decide (k.kc.cert.type = 5)) k.kc.spk (s.data.drop n)

theorem readDestinationFromLeaseSetS_spec (s : Sl) :
    ∃ r, readDestinationFromLeaseSetS s = .ok r ∧
      match r with
      | none => readLeaseSet s.data = none
      | some (dest, rem) => DestFound s dest rem := by
  unfold readDestinationFromLeaseSetS lsValidateDestinationMinSizeC lsCalculateDestinationLengthC
    lsValidateDestinationDataSizeC
  by_cases h : s.len < 387
  · simp only [go, h, readLeaseSet_eq]
  have hcert := lsParseCertificateFromLeaseSetC_eq s 384 (by omega)
  simp only [go] at hcert
  cases hc : readCert (s.data.drop 384) with
  | none => simp only [go, h, hcert, hc, readLeaseSet_eq]
  | some p =>
  obtain ⟨c, rc⟩ := p
  have e : (384 : Int) + (3 + (c.declared : Int)) = ((387 + c.declared : Nat) : Int) := by
    rw [← Int.add_assoc, Int.natCast_add]; rfl
  by_cases h2 : s.len < 387 + c.declared
  · simp only [go, h, hcert, hc, e, h2, readLeaseSet_eq]
  have hdest := lsExtractDestinationFromDataC_eq s (387 + c.declared) (Nat.le_of_not_lt h2)
  cases hd : readDestination (s.data.take (387 + c.declared)) with
  | none => simp only [go, h, hcert, hc, e, h2, hdest, hd, readLeaseSet_eq]
  | some q =>
  obtain ⟨k, r0⟩ := q
  simp only [go, h, hcert, hc, e, h2, hdest, hd]
  have hk := DestOK_of_readDestination hd
  obtain ⟨db, hdb, -⟩ := readDestination_isSub.consumed hd
  -- the pure model tests the kind byte of the certificate at offset 384, the Go helpers `Type()` of the destination's
  have hkind : (c.kind == [5]) = decide (k.kc.cert.type = 5) := by
    rw [← dest_cert_kind hc hd, Bool.eq_iff_iff, beq_iff_eq, decide_eq_true_eq, kind_five hk.hk]
  exact ⟨k, db, 387 + c.declared, rfl, hk, hdb, Nat.le_add_right _ _, Nat.le_of_not_lt h2, rfl,
    by simp only [readLeaseSet_eq, go, h, hc, h2, hd, hdb, hkind]⟩

theorem lsParseEncryptionKeyC_eq (s : Sl) :
    lsParseEncryptionKeyC s = .ok (if s.len < 256 then none else
      if !elgValid (s.data.take 256) then none else some (s.data.take 256, s.drop 256)) := by
  unfold lsParseEncryptionKeyC
  by_cases h : s.len < 256
  · simp only [go, h]
  obtain ⟨hto, hfrom, hlen⟩ := take_drop_ok (n := 256) (Nat.le_of_not_lt h)
  rw [Int.cast_ofNat_Int] at hto hfrom     -- the program has the literal `256 : Int`, not the cast of `256 : Nat`
  have e := newElgPublicKeyC_eq (s.take 256) hlen
  by_cases hv : elgValid (s.data.take 256) = false <;>
    simp only [go, h, hto, hfrom, hv, e, deref, Option.isNone_none, Option.isNone_some]

/-- the signing-key size, signature size and signature type `ReadLeaseSet` derives from the destination's
    certificate -/
def lsKs (k : KeysAndCert) : Nat := if k.kc.cert.type = 5 then sigPubSize k.kc.spk else 128
def lsSs (k : KeysAndCert) : Nat := if k.kc.cert.type = 5 then sigLen k.kc.spk else 40
def lsSt (k : KeysAndCert) : Nat := if k.kc.cert.type = 5 then k.kc.spk else 0

theorem lsDetermineSigningKeySizeC_eq {k : KeysAndCert} (hk : DestOK k) :
    lsDetermineSigningKeySizeC (some k.kc.cert) k.kc.cert.type = .ok (lsKs k : Int) := by
  unfold lsDetermineSigningKeySizeC lsKs
  by_cases h5 : k.kc.cert.type = 5 <;> simp only [go, hk.keyCert, h5, signingPublicKeySizeC]

theorem lsDetermineSignatureSizeC_eq {k : KeysAndCert} (hk : DestOK k) :
    lsDetermineSignatureSizeC (some k.kc.cert) k.kc.cert.type = .ok (lsSs k : Int) := by
  unfold lsDetermineSignatureSizeC lsSs
  by_cases h5 : k.kc.cert.type = 5 <;> simp only [go, hk.keyCert, h5, signatureSizeC]

theorem lsDetermineSignatureTypeC_eq {k : KeysAndCert} (hk : DestOK k) :
    lsDetermineSignatureTypeC (some k.kc.cert) k.kc.cert.type = .ok (lsSt k : Int) := by
  unfold lsDetermineSignatureTypeC lsSt
  by_cases h5 : k.kc.cert.type = 5 <;> simp only [go, hk.keyCert, h5, signingPublicKeyTypeC]

theorem lsConstructSigningKeyC_eq (D : Sl) {k : KeysAndCert} (hk : DestOK k) (hl : D.len = lsKs k) :
    lsConstructSigningKeyC D (some k.kc.cert) k.kc.cert.type =
      .ok (if !decide (k.kc.cert.type = 5) && !dsaValid D.data then none else some D.data) := by
  unfold lsConstructSigningKeyC constructSigningPublicKeyC
  unfold lsKs at hl
  by_cases h5 : k.kc.cert.type = 5
  · rw [if_pos h5] at hl
    simp only [go, hk.keyCert, h5, hl, selectSigningKeyConstructorC_eq _ _ hk.hs hl, Bool.false_and]
  · rw [if_neg h5] at hl
    simp only [go, h5, newDSAPublicKeyC_eq D hl, Bool.true_and]

theorem lsParseSigningKeyC_eq (s : Sl) {k : KeysAndCert} (hk : DestOK k) :
    lsParseSigningKeyC s (some k) = .ok (if s.len < lsKs k then none else
      if !decide (k.kc.cert.type = 5) && !dsaValid (s.data.take (lsKs k)) then none
      else some (s.data.take (lsKs k), s.drop (lsKs k))) := by
  simp only [lsParseSigningKeyC, destCertificateC, certTypeP, go, certTypeC_eq hk.hk hk.hl,
    lsDetermineSigningKeySizeC_eq hk]
  by_cases h : s.len < lsKs k
  · simp only [go, h]
  obtain ⟨hto, hfrom, hlen⟩ := take_drop_ok (Nat.le_of_not_lt h)
  have e := lsConstructSigningKeyC_eq (s.take (lsKs k)) hk hlen
  by_cases hv : (!decide (k.kc.cert.type = 5) && !dsaValid (s.data.take (lsKs k))) = true <;>
    simp only [go, h, hto, hfrom, e, hv]

theorem lsSs_eq {k : KeysAndCert} (hk : DestOK k) : sigLen (lsSt k) = lsSs k ∧ lsSs k ≠ 0 := by
  unfold lsSt lsSs
  by_cases h5 : k.kc.cert.type = 5
  · rw [if_pos h5, if_pos h5]; exact ⟨rfl, sigLen_of_constructible hk.hs⟩
  · rw [if_neg h5, if_neg h5]; exact ⟨rfl, by decide⟩

theorem lsParseSignatureC_eq (s : Sl) {k : KeysAndCert} (hk : DestOK k) :
    lsParseSignatureC s (some k) = .ok (if s.len < lsSs k then none else
      some ((s.data.take (lsSs k), (lsSt k : Int)), s.drop (lsSs k))) := by
  obtain ⟨e1, e2⟩ := lsSs_eq hk
  simp only [lsParseSignatureC, destCertificateC, certTypeP, go, certTypeC_eq hk.hk hk.hl,
    lsDetermineSignatureSizeC_eq hk]
  by_cases h : s.len < lsSs k
  · simp only [go, h]
  obtain ⟨hto, hfrom, hlen⟩ := take_drop_ok (Nat.le_of_not_lt h)
  have e := newSignatureFromBytesC_eq (s.take (lsSs k)) (lsSt k) (by rw [e1]; exact e2) (by rw [e1]; exact hlen)
  simp only [go, h, hto, hfrom, lsDetermineSignatureTypeC_eq hk, e]

/-- the `f` consecutive 44-byte windows of `d`, starting with window number `i` -/
def chunks44 (d : Bytes) (i f : Nat) : List Bytes := (List.range' i f).map fun j => (d.drop (j * 44)).take 44

theorem chunks44_succ (d : Bytes) (i f : Nat) :
    chunks44 d i (f + 1) = (d.drop (i * 44)).take 44 :: chunks44 d (i + 1) f := by
  simp only [chunks44, List.range'_succ, List.map_cons]

theorem chunks44_length (d : Bytes) (i f : Nat) : (chunks44 d i f).length = f := by
  simp only [chunks44, List.length_map, List.length_range']

theorem chunks44_getElem? (d : Bytes) {i f j : Nat} (h : j < f) :
    (chunks44 d i f)[j]? = some ((d.drop ((i + j) * 44)).take 44) := by
  simp only [chunks44, List.getElem?_map, List.getElem?_range' h, Option.map_some, Nat.one_mul]

theorem chunks44_len44 {d : Bytes} {i f : Nat} (h : (i + f) * 44 ≤ d.length) :
    ∀ x ∈ chunks44 d i f, x.length = 44 := by
  intro x hx
  obtain ⟨j, hj, rfl⟩ := List.mem_map.mp hx
  -- `j < i + f`: window `j` ends at `(j + 1) * 44 ≤ (i + f) * 44`
  have hj' := Nat.le_trans (Nat.mul_le_mul_right 44 (List.mem_range'_1.mp hj).2) h
  rw [Nat.succ_mul] at hj'
  rw [List.length_take, List.length_drop, Nat.min_eq_left (Nat.le_sub_of_add_le' hj')]

theorem chunks44_flatten (d : Bytes) : ∀ (f i : Nat), (chunks44 d i f).flatten = (d.drop (i * 44)).take (f * 44) := by
  intro f
  induction f with
  | zero => intro i; simp [chunks44]
  | succ f ih =>
    intro i
    rw [chunks44_succ, List.flatten_cons, ih, Nat.succ_mul i, ← List.drop_drop, ← List.take_add, Nat.succ_mul f,
      Nat.add_comm (f * 44)]

theorem lsExtractLeasesLoopC_eq (s : Sl) (n : Nat) (hn : n * 44 ≤ s.len) : ∀ (fuel i : Nat) (leases : List Bytes),
    i + fuel = n →
      lsExtractLeasesLoopC fuel (i : Int) (n : Int) leases s = .ok (leases ++ chunks44 s.data i fuel, fuel) := by
  intro fuel
  induction fuel with
  | zero => intro i leases _; simp [lsExtractLeasesLoopC, chunks44]
  | succ fuel ih =>
    intro i leases h
    have hlt : i < n := h ▸ Nat.lt_add_of_pos_right (Nat.succ_pos fuel)
    obtain ⟨hw, hwl⟩ := slice_window (w := 44) (Nat.le_trans (Nat.mul_le_mul_right 44 hlt) hn)
    rw [Int.cast_ofNat_Int] at hw
    have hi := ih (i + 1) (leases ++ [(s.data.drop (i * 44)).take 44]) ((Nat.add_right_comm i 1 fuel).trans h)
    rw [Int.natCast_add, Int.natCast_one] at hi
    unfold lsExtractLeasesLoopC
    simp only [go, hlt, hw, hwl, hi, chunks44_succ, List.append_assoc, List.singleton_append]

/-- `h` is the guard `parseLeases` establishes before it calls `extractLeases` -/
theorem lsExtractLeasesC_eq (s : Sl) (n : Nat) (h : n * 44 ≤ s.len) :
    lsExtractLeasesC s n = .ok (chunks44 s.data 0 n, n) := by
  simpa only [lsExtractLeasesC, Int.toNat_natCast, Int.cast_ofNat_Int, List.nil_append] using
    lsExtractLeasesLoopC_eq s n h n 0 [] (Nat.zero_add n)

theorem lsParseLeasesC_eq (s : Sl) :
    lsParseLeasesC s = .ok (match s.data with
      | [] => none
      | n :: r => if n.toNat > 16 then none else if r.length < n.toNat * 44 then none else
          some ((n.toNat : Int), chunks44 r 0 n.toNat, s.drop (1 + n.toNat * 44))) := by
  unfold lsParseLeasesC
  cases hd : s.data with
  | nil => simp only [go, Sl.len_of_data_nil hd]
  | cons n r =>
    obtain ⟨hl, h0, h1, ht⟩ := head_drop hd
    have hr : s.len - 1 = r.length := by rw [hl]; rfl
    simp only [go, Nat.not_lt_of_le (hl ▸ Nat.le_add_left 1 _), h0, h1, hr]
    by_cases h16 : n.toNat > 16
    · simp only [go, h16]
    by_cases h44 : r.length < n.toNat * 44
    · simp only [go, h16, h44]
    have hloop := lsExtractLeasesC_eq (s.drop 1) n.toNat (by rw [Sl.drop_len, hr]; exact Nat.le_of_not_lt h44)
    rw [ht] at hloop
    simp only [go, h16, h44, hloop, hr, Nat.zero_le, Nat.le_of_not_lt h44]

/-- the part of `parseLeaseSetComponents` after `ReadDestinationFromLeaseSet` -/
def lsAfterDest (dest : Dest) (remainder : Sl) : Go (Option (LS × Sl)) := do
  match ← lsParseEncryptionKeyC remainder with
  | none => return none
  | some (encryptionKey, remainder) =>
  match ← lsParseSigningKeyC remainder dest with
  | none => return none
  | some (signingKey, remainder) =>
  match ← lsParseLeasesC remainder with
  | none => return none
  | some (leaseCount, leases, remainder) =>
  match ← lsParseSignatureC remainder dest with
  | none => return none
  | some (signature, unread) =>
  return some (lsAssembleLeaseSetFromParsedDataC dest encryptionKey signingKey leaseCount leases signature, unread)

theorem lsParseLeaseSetComponentsC_split (data : Sl) :
    lsParseLeaseSetComponentsC data = (do
      match ← readDestinationFromLeaseSetS data with
      | none => return none
      | some (dest, remainder) => lsAfterDest dest remainder) := rfl

/-- the facts about a successfully parsed LeaseSet that `C04.readLeaseSetS_shape` states; `s` is the input, of which
    at least `m` bytes precede the encryption key -/
def LsShape (m : Nat) (s : Sl) (r : Option (LS × Sl)) : Prop :=
  match r with
  | none => True
  | some (l, rem) => l.dest.isSome ∧ 0 ≤ l.leaseCount ∧ l.leaseCount ≤ 16 ∧ l.leases.length = l.leaseCount.toNat ∧
      (∀ x ∈ l.leases, x.length = 44) ∧ l.encryptionKey.length = 256 ∧
      ∃ destLen, m ≤ destLen ∧
        rem.len + l.signature.length + 44 * l.leases.length + 1 + l.signingKey.length + 256 + destLen = s.len

theorem LsShape_none (m : Nat) (s : Sl) : LsShape m s none = True := rfl

/-- the parsed value is seen through `Bytes()`, which does not fail on it (`some q.1` on the model's side) -/
theorem lsAfterDest_spec {k : KeysAndCert} (hk : DestOK k) {db : Bytes} (hdb : k.bytes = some db) (s : Sl) :
    ∃ r, lsAfterDest (some k) s = .ok r ∧
      r.map (fun p => (p.1.bytes, p.2.data)) =
        (lsCont db (decide (k.kc.cert.type = 5)) k.kc.spk s.data).map (fun q => (some q.1, q.2)) ∧
      LsShape 0 s r := by
  unfold lsAfterDest lsCont
  -- the pure model computes the two sizes from its flag `isKey`
  rw [show (if decide (k.kc.cert.type = 5) = true then sigPubSize k.kc.spk else 128) = lsKs k from
      ite_congr decide_eq_true_eq (fun _ => rfl) (fun _ => rfl),
    show (if decide (k.kc.cert.type = 5) = true then sigLen k.kc.spk else 40) = lsSs k from
      ite_congr decide_eq_true_eq (fun _ => rfl) (fun _ => rfl)]
  by_cases h1 : s.len < 256
  · simp only [go, h1, lsParseEncryptionKeyC_eq, LsShape_none]
  cases hv : elgValid (s.data.take 256) with
  | false => simp only [go, h1, hv, lsParseEncryptionKeyC_eq, LsShape_none]
  | true =>
  by_cases h2 : s.len - 256 < lsKs k
  · simp only [go, h1, hv, h2, lsParseEncryptionKeyC_eq, lsParseSigningKeyC_eq _ hk, LsShape_none]
  by_cases hd : (!decide (k.kc.cert.type = 5) && !dsaValid ((s.data.drop 256).take (lsKs k))) = true
  · simp only [go, h1, hv, h2, hd, lsParseEncryptionKeyC_eq, lsParseSigningKeyC_eq _ hk, LsShape_none]
  simp only [go, h1, hv, h2, hd, lsParseEncryptionKeyC_eq, lsParseSigningKeyC_eq _ hk, lsParseLeasesC_eq]
  -- both sides now match on the bytes after the signing key: the count byte `n` and the rest `r2`
  cases hm : s.data.drop (256 + lsKs k) with
  | nil => simp only [go, LsShape_none]
  | cons n r2 =>
  have hl : r2.length + 1 = s.len - (256 + lsKs k) := by
    rw [← s.data_length, ← List.length_drop, hm]; rfl
  by_cases h16 : 16 < n.toNat
  · simp only [go, h16, LsShape_none]
  by_cases h44 : r2.length < n.toNat * 44
  · simp only [go, h16, h44, LsShape_none]
  -- the signature and the unread bytes, which the mirror addresses from the start of `s`, in terms of `r2`
  have hr : s.data.drop (256 + lsKs k + (1 + n.toNat * 44)) = r2.drop (n.toNat * 44) := by
    rw [← List.drop_drop, hm, Nat.add_comm 1, List.drop_succ_cons]
  have e6 : s.len - (256 + lsKs k + (1 + n.toNat * 44)) = r2.length - n.toNat * 44 := by
    rw [← s.data_length, ← List.length_drop, hr, List.length_drop]
  by_cases h6 : r2.length - n.toNat * 44 < lsSs k
  · simp only [go, h16, h44, lsParseSignatureC_eq _ hk, e6, h6, LsShape_none]
  simp only [go, h16, h44, lsParseSignatureC_eq _ hk, e6, h6, lsAssembleLeaseSetFromParsedDataC, chunks44_length,
    Nat.min_eq_left (Nat.le_of_not_lt h2), Nat.min_eq_left (Nat.le_of_not_lt h6), LsShape]
  -- the four cuts lie inside `s`, so what they cut off adds up to `s.len`
  have a2 : 256 + lsKs k ≤ s.len := Nat.add_le_of_le_sub' (Nat.le_of_not_lt h1) (Nat.le_of_not_lt h2)
  have a3 : 256 + lsKs k + (1 + n.toNat * 44) ≤ s.len :=
    Nat.add_le_of_le_sub' a2 (by rw [← hl, Nat.add_comm]; exact Nat.succ_le_succ (Nat.le_of_not_lt h44))
  have a4 := Nat.add_le_of_le_sub' a3 (by rw [e6]; exact Nat.le_of_not_lt h6)
  refine ⟨?_, rfl, Nat.zero_le _, Nat.le_of_not_lt h16,
    chunks44_len44 (by rw [Nat.zero_add]; exact Nat.le_of_not_lt h44), Nat.min_eq_left (Nat.le_of_not_lt h1),
    0, Nat.le_refl 0, by rw [Nat.mul_comm 44]; exact .trans (by ac_rfl) (Nat.sub_add_cancel a4)⟩
  rw [← List.drop_drop (i := lsSs k), ← List.drop_drop (i := lsSs k), hr]
  simp only [LS.bytes, Option.bind_some, hdb, Option.map_some, Int.toNat_natCast, beEnc_toNat, chunks44_flatten,
    Nat.zero_mul, List.drop_zero]

theorem readLeaseSetS_spec (s : Sl) :
    ∃ r, readLeaseSetS s = .ok r ∧
      r.map (fun p => (p.1.bytes, p.2.data)) = (readLeaseSet s.data).map (fun q => (some q.1, q.2)) ∧
      LsShape 387 s r := by
  unfold readLeaseSetS lsValidateLeaseSetDataLengthC
  by_cases h : s.len < 387
  · simp only [go, h, readLeaseSet_eq, LsShape_none]
  simp only [go, h, lsParseLeaseSetComponentsC_split]
  refine bind_spec (readDestinationFromLeaseSetS_spec s) ?_
  rintro (_ | ⟨dest, rem⟩) hm <;> simp only [] at hm
  · simp only [go, hm, LsShape_none]
  obtain ⟨k, db, n, rfl, hk, hdb, hn, hn', rfl, hp⟩ := hm
  obtain ⟨r, hr, hv, hs⟩ := lsAfterDest_spec hk hdb (s.drop n)
  rw [Sl.drop_data, ← hp] at hv
  refine ⟨r, hr, hv, ?_⟩
  -- the `n` bytes of the destination join the count
  cases r with
  | none => trivial
  | some q =>
    obtain ⟨a1, a2, a3, a4, a5, a6, d, -, hd⟩ := hs
    rw [Sl.drop_len] at hd
    exact ⟨a1, a2, a3, a4, a5, a6, d + n, Nat.le_trans hn (Nat.le_add_left n d),
      by rw [← Nat.add_assoc, hd, Nat.sub_add_cancel hn']⟩

end I2P.Checked
