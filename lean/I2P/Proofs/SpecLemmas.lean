import I2P.Spec.Structs
import I2P.Proofs.KacLemmas
import I2P.Proofs.MappingLemmas
import I2P.Proofs.StructLemmas
/-! Helper lemmas for C02: every spec encoding (I2P/Spec/Structs.lean) of a well-formed, supported
    value is accepted by the code-mirroring reader (I2P/Kac.lean, Mapping.lean, Structs.lean), which
    consumes exactly that encoding and re-serialises to it.  One lemma per sub-reader, named `X_R` for the reader
    `R` on the encoding of `X`; the composite structures are assembled in Props/C02.lean from the stage predicates
    of Proofs/StructLemmas.lean (`hdr_of_parts` here, the `…Tail_of_parts` there). -/

namespace I2P.SpecLemmas
open I2P.Spec I2P.Kac I2P.Structs I2P.Mapping

theorem take_app_left {α} (a b : List α) (n : Nat) (h : a.length = n) : (a ++ b).take n = a := List.take_left' h
theorem drop_app_left {α} (a b : List α) (n : Nat) (h : a.length = n) : (a ++ b).drop n = b := List.drop_left' h

theorem sig_readSig {s x : Bytes} {t : Nat} (hl : s.length = sigLen t) (h0 : sigLen t ≠ 0) :
    readSig (s ++ x) t = some (s, x) := by
  rw [readSig_some]
  refine ⟨h0, by rw [List.length_append]; omega, (List.take_left' hl).symm, (List.drop_left' hl).symm⟩

/-- the parser can construct keys of these types only (KeysAndCert layer) -/
def KacSupported (v : SIdentity) : Prop :=
  sigConstructible v.sigType = true ∧ cryptoConstructible v.cryptoType = true

theorem identity_readKac (v : SIdentity) (x : Bytes) (h : v.wf) (hs : KacSupported v) :
    ∃ k, readKac (identityCodec.write v ++ x) = some (k, x) ∧ k.bytes = some (identityCodec.write v) ∧
      k.pub = v.cryptoKey ∧ k.padding = v.padding ∧ k.sig = v.sigKey ∧ k.kc.spk = v.sigType ∧ k.kc.cpk = v.cryptoType := by
  obtain ⟨nc, st, ct, ck, pad, sk, ex⟩ := v
  rw [identityCodec_write]
  cases nc with
  | true =>
    obtain ⟨rfl, rfl, hck, rfl, hsk, hex⟩ := SIdentity.wf_null.1 h
    exact readKac_accepts_null ck sk ex x hck hsk hex
  | false =>
    obtain ⟨hcs, hss, hs128, hck, hsk, hpad, hex⟩ := SIdentity.wf_key.1 h
    exact readKac_accepts st ct hs.1 hs.2 ck pad sk ex x hck hsk hpad hex

/-- `ReadDestination` and `ReadRouterIdentity` are `ReadKeysAndCert` followed by a key-type policy: `hR` is
    `readDestination_iff` or `readRouterIdentity_iff` -/
theorem identity_readPolicy {R : Bytes → Option (KeysAndCert × Bytes)} {allowed : Nat → Nat → Bool}
    (hR : ∀ {w k r}, R w = some (k, r) ↔ readKac w = some (k, r) ∧ allowed k.kc.spk k.kc.cpk = true)
    (v : SIdentity) (x : Bytes) (h : v.wf) (hs : KacSupported v) (ha : allowed v.sigType v.cryptoType = true) :
    ∃ k, R (identityCodec.write v ++ x) = some (k, x) ∧ k.bytes = some (identityCodec.write v) ∧
      k.pub = v.cryptoKey ∧ k.padding = v.padding ∧ k.sig = v.sigKey ∧ k.kc.spk = v.sigType ∧ k.kc.cpk = v.cryptoType := by
  obtain ⟨k, hr, hk⟩ := identity_readKac v x h hs
  exact ⟨k, hR.mpr ⟨hr, by rw [hk.2.2.2.2.1, hk.2.2.2.2.2]; exact ha⟩, hk⟩

theorem identity_block_length (v : SIdentity) (h : v.wf) : (v.cryptoKey ++ (v.padding ++ v.sigKey)).length = 384 :=
  h.block_length

theorem identity_length (v : SIdentity) (h : v.wf) :
    (identityCodec.write v).length = 387 + v.certPayload.length := by
  rw [identityCodec_write, List.length_append, identity_block_length v h]
  simp only [List.length_append, List.length_singleton, beEnc_length]
  omega

/-- the model parser refuses duplicate keys and stops after 1000 pairs (both are restrictions of the
    parser relative to the Mapping layout, which allows either) -/
def MappingAccepted (m : SMapping) : Prop := (m.map (·.1)).Nodup ∧ m.length ≤ 1000

theorem writeAll_pair_eq (m : SMapping) (hs : Short m) : writeAll pairCodec m = serPairs (m.map enc) := by
  induction m with
  | nil => rfl
  | cons p t ih =>
    have hp := hs p (by simp)
    rw [writeAll_cons, List.map_cons, serPairs_cons, ih (fun q hq => hs q (List.mem_cons_of_mem _ hq)),
      serPair_ok _ (pairOk_enc p hp), pairCodec_write, beEnc_one, beEnc_one]
    simp only [enc, List.append_assoc, List.cons_append, List.nil_append]

theorem mapping_write_eq (m : SMapping) (hs : Short m) : mappingCodec.write m = dataOf (m.map enc) := by
  rw [mappingCodec_write, writeAll_pair_eq m hs]
  rfl

theorem mapping_readMapping (m : SMapping) (x : Bytes) (h : SMapping.wf m) (ha : MappingAccepted m) :
    readMapping (mappingCodec.write m ++ x) =
      { hasSize := true, vals := some (m.map enc), rem := x, errs := if m.map enc = [] ∨ x = [] then [] else [.beyond] } := by
  have hs : Short m := h.1
  rw [mapping_write_eq m hs]
  apply readMapping_dataOf
  · intro q hq
    obtain ⟨p, hp, rfl⟩ := List.mem_map.mp hq
    exact pairOk_enc p (hs p hp)
  · rw [keys_enc m hs]; exact ha.1
  · rw [List.length_map]; exact ha.2
  · rw [← writeAll_pair_eq m hs, writeAll_pair_length]; exact h.2

theorem mapping_accepted (m : SMapping) (x : Bytes) (h : SMapping.wf m) (ha : MappingAccepted m) :
    accepted (readMapping (mappingCodec.write m ++ x)) = true := by
  rw [mapping_readMapping m x h ha]
  unfold accepted
  split <;> rfl

theorem mapping_data (m : SMapping) (x : Bytes) (h : SMapping.wf m) (ha : MappingAccepted m) :
    Mapping.data (readMapping (mappingCodec.write m ++ x)) = some (mappingCodec.write m) := by
  rw [mapping_readMapping m x h ha, mapping_write_eq m h.1]
  rfl

theorem mapping_write_length_ge (m : SMapping) : 2 ≤ (mappingCodec.write m).length := by
  rw [mappingCodec_write, List.length_append, beEnc_length]; omega

/-- `z`: either flavour of the `0000` shortcut -/
theorem mapping_readOptions (m : SMapping) (x : Bytes) (z : Bool) (h : SMapping.wf m) (ha : MappingAccepted m) :
    readOptions (mappingCodec.write m ++ x) z = some (mappingCodec.write m, x) := by
  have hv : ((readMapping (mappingCodec.write m ++ x)).vals.getD []).length = m.length := by
    rw [mapping_readMapping m x h ha]; exact List.length_map enc
  rw [readOptions_some, mapping_data m x h ha, hv]
  refine ⟨mapping_accepted m x h ha, by rw [mapping_readMapping m x h ha], ?_⟩
  split
  · next hz =>
    -- no pairs: the encoding is `0000` as well
    cases List.eq_nil_of_length_eq_zero hz.2
    rfl
  · rfl

theorem offline_write_length (t : Nat) (o : SOfflineSig) (h : o.wf t) :
    ((offlineCodec t).write o).length = 6 + sigPubSize o.transientType + sigLen t := by
  obtain ⟨_, _, _, _, hk, hs⟩ := h
  rw [offlineCodec_write]
  simp only [List.length_append, beEnc_length, hk, hs]
  omega

theorem offline_readOffSig (t : Nat) (o : SOfflineSig) (x : Bytes) (h : o.wf t) :
    readOffSig ((offlineCodec t).write o ++ x) t = some ((offlineCodec t).write o, x, o.transientType) := by
  have hlen := offline_write_length t o h
  obtain ⟨he, ht, hk0, hs0, hk, hs⟩ := h
  rw [readOffSig_some]
  have hst : beVal ((((offlineCodec t).write o ++ x).drop 4).take 2) = o.transientType := by
    rw [offlineCodec_write]
    simp only [List.append_assoc]
    rw [List.drop_left' (beEnc_length _ _), List.take_left' (beEnc_length _ _), beVal_beEnc 2 _ ht]
  have hle : 6 + sigPubSize o.transientType + sigLen t ≤ ((offlineCodec t).write o ++ x).length := by
    rw [List.length_append, hlen]; exact Nat.le_add_right _ _
  exact ⟨by omega, hst.symm, hk0, hs0, hle, (List.take_left' hlen).symm, (List.drop_left' hlen).symm⟩

/-- the clause of `SLeaseSet2.wf`, `SMetaLeaseSet.wf` and `SEncryptedLeaseSet.wf` about the optional offline block:
    present exactly when flag bit 0 is set, and then well-formed for the destination's type -/
def OfflineOk (flags destType : Nat) (off : Option SOfflineSig) : Prop :=
  match off with
  | some o => (flags % 2 == 1) = true ∧ o.wf destType
  | none => (flags % 2 == 1) = false

theorem offline_offStage (flags t : Nat) (off : Option SOfflineSig) (x : Bytes) (h : OfflineOk flags t off) :
    offStage flags (offlineBytes t off ++ x) t = some (offlineBytes t off, x, finalSigType t off) := by
  unfold offStage
  cases off with
  | none => rw [if_neg (beq_eq_false_iff_ne.1 h)]; rfl
  | some o => rw [if_pos (beq_iff_eq.1 h.1)]; exact offline_readOffSig t o x h.2

theorem finalSig_ne (t flags : Nat) (off : Option SOfflineSig) (ht : sigLen t ≠ 0) (hoff : OfflineOk flags t off) :
    sigLen (finalSigType t off) ≠ 0 := by
  cases off with
  | none => exact ht
  | some o => exact sigLen_ne_of_pub _ hoff.2.2.2.1

theorem encKey_write_length (k : SEncKey) : (encKeyCodec.write k).length = 4 + k.data.length := by
  rw [encKeyCodec_write]; simp only [List.length_append, beEnc_length]; omega

/-- the count the loop is run with is a variable, so that the lemma applies to `nk.toNat` as it stands -/
theorem keys_readKeys (ks : List SEncKey) (x acc : Bytes) {n : Nat} (hn : n = ks.length) (h : ∀ k ∈ ks, k.wf) :
    readKeys n (writeAll encKeyCodec ks ++ x) acc = some (acc ++ writeAll encKeyCodec ks, x) := by
  subst hn
  induction ks generalizing acc with
  | nil => simp [readKeys_zero]
  | cons k t ih =>
    have hl := encKey_write_length k
    have hkl : beVal (((encKeyCodec.write k ++ (writeAll encKeyCodec t ++ x)).drop 2).take 2) = k.data.length := by
      rw [encKeyCodec_write]
      simp only [List.append_assoc]
      rw [List.drop_left' (beEnc_length _ _), List.take_left' (beEnc_length _ _), beVal_beEnc 2 _ (h k (by simp)).2]
    rw [List.length_cons, writeAll_cons, List.append_assoc, readKeys_succ_some, hkl, List.drop_left' hl, List.take_left' hl,
      ih _ (fun q hq => h q (List.mem_cons_of_mem _ hq)), List.append_assoc, List.length_append, hl]
    exact ⟨Nat.le_add_right _ _, rfl⟩

theorem lease2_write_length (l : SLease2) (h : l.wf) : (lease2Codec.write l).length = 40 := by
  rw [lease2Codec_write]; simp only [List.length_append, beEnc_length, h.1]

theorem lease_write_length (l : SLease) (h : l.wf) : (leaseCodec.write l).length = 44 := by
  rw [leaseCodec_write]; simp only [List.length_append, beEnc_length, h.1]

theorem fixed_readFixed {b x : Bytes} (n size : Nat) (h : b.length = n * size) :
    readFixed n size (b ++ x) = some (b, x) := by
  rw [readFixed_eq, readFixedN_some]
  exact ⟨by rw [List.length_append]; omega, (List.take_left' h).symm, (List.drop_left' h).symm⟩

theorem leases2_length (ls : List SLease2) (h : ∀ l ∈ ls, l.wf) : (writeAll lease2Codec ls).length = ls.length * 40 :=
  writeAll_length_const lease2Codec 40 ls (fun a ha => lease2_write_length a (h a ha))

theorem leases_length (ls : List SLease) (h : ∀ l ∈ ls, l.wf) : (writeAll leaseCodec ls).length = ls.length * 44 :=
  writeAll_length_const leaseCodec 44 ls (fun a ha => lease_write_length a (h a ha))

/-- what the parser demands of an embedded destination beyond the layout -/
def DestSupported (v : SIdentity) : Prop :=
  KacSupported v ∧ destAllowed v.sigType v.cryptoType = true

/-- the input is written as `simp only [List.append_assoc]` leaves the encodings of the composite structures -/
theorem hdr_of_parts {d : SIdentity} {p e f : Nat} {off : Option SOfflineSig} {m : SMapping} {rest : Bytes}
    (hd : d.wf) (hds : DestSupported d) (hf : f < 256 ^ 2)
    (hoff : OfflineOk f d.sigType off) (hm : SMapping.wf m) (hma : MappingAccepted m) :
    Hdr (identityCodec.write d ++ (beEnc 4 p ++ (beEnc 2 e ++ (beEnc 2 f ++
          (offlineBytes d.sigType off ++ (mappingCodec.write m ++ rest))))))
      (identityCodec.write d ++ (beEnc 4 p ++ (beEnc 2 e ++ beEnc 2 f)) ++ offlineBytes d.sigType off ++ mappingCodec.write m)
      rest (finalSigType d.sigType off) := by
  have h8 := hdr3_length p e f
  rw [hdr3_assoc]
  obtain ⟨k, hr, hb, -, -, -, hspk, -⟩ := identity_readPolicy readDestination_iff d
    ((beEnc 4 p ++ (beEnc 2 e ++ beEnc 2 f)) ++ (offlineBytes d.sigType off ++ (mappingCodec.write m ++ rest))) hd hds.1 hds.2
  refine ⟨k, _, _, offlineBytes d.sigType off, mappingCodec.write m ++ rest, mappingCodec.write m, hr, hb, ?_, ?_, ?_, ?_⟩
  · rw [List.length_append, h8]; exact Nat.le_add_right _ _
  · rw [window_append_le (i := 6) (n := 2) _ (by rw [h8]; decide), hdr3_flags, beVal_beEnc 2 f hf, List.drop_left' h8, hspk]
    exact offline_offStage f d.sigType off _ hoff
  · exact mapping_readOptions m rest true hm hma
  · rw [List.take_left' h8]

/-- restrictions of `ReadLeaseSet2` relative to the layout -/
structure LeaseSet2Accepted (v : SLeaseSet2) : Prop where
  /-- key types the library can construct, and the Destination key-type policy -/
  dest : DestSupported v.dest
  /-- options: no duplicate keys, at most 1000 pairs -/
  options : MappingAccepted v.options
  /-- `LEASESET2_MIN_SIZE`: inputs shorter than 499 bytes are refused although shorter LeaseSet2s exist
      (e.g. a 387-byte DSA destination, one X25519 key, no lease: 475 bytes) — finding D30 -/
  minSize : 499 ≤ (leaseSet2Codec.write v).length

end I2P.SpecLemmas
