import I2P.Proofs.SpecLemmas
/-! Helper lemmas for C02, continued: RouterAddress, and `ReadRouterInfo` / `ReadLeaseSet` up to the end of the
    identity, over a variable tail. -/

namespace I2P.SpecLemmas
open I2P.Spec I2P.Kac I2P.Structs I2P.Mapping

theorem routerAddress_readRouterAddress (v : SRouterAddress) (x : Bytes) (h : v.wf) (ha : MappingAccepted v.options) :
    readRouterAddress (routerAddressCodec.write v ++ x) = some (routerAddressCodec.write v, x) := by
  obtain ⟨hc, he, hs, hm⟩ := h
  have hs' : v.style.length < 256 := hs
  have h9 : (beEnc 1 v.cost ++ beEnc 8 v.expiration).length = 9 := by
    simp only [List.length_append, beEnc_length]
  -- the encoding grouped as the reader cuts it: nine bytes of cost and date, the string, the mapping
  have hw : routerAddressCodec.write v ++ x =
      (beEnc 1 v.cost ++ beEnc 8 v.expiration) ++
        ((UInt8.ofNat v.style.length :: v.style) ++ (mappingCodec.write v.options ++ x)) := by
    rw [routerAddressCodec_write, beEnc_one v.style.length]
    simp only [List.append_assoc, List.cons_append, List.nil_append]
  rw [hw, readRouterAddress_some, List.drop_left' h9, List.take_left' h9]
  refine ⟨?_, _, _, readStr_ok _ _ (strDataOk_enc _ (Nat.le_of_lt_succ hs')), mapping_accepted _ _ hm ha, ?_,
    by rw [mapping_readMapping _ _ hm ha]⟩
  · have := mapping_write_length_ge v.options
    simp only [List.length_append, List.length_cons, beEnc_length]
    omega
  · rw [mapping_data _ _ hm ha, routerAddressCodec_write, beEnc_one v.style.length]
    simp only [Option.getD_some, List.append_assoc, List.cons_append, List.nil_append]

theorem addrs_readAddrs (as : List SRouterAddress) (x acc : Bytes) {n : Nat} (hn : n = as.length) (h : ∀ a ∈ as, a.wf)
    (hm : ∀ a ∈ as, MappingAccepted a.options) :
    readAddrs n (writeAll routerAddressCodec as ++ x) acc = some (acc ++ writeAll routerAddressCodec as, x) := by
  subst hn
  induction as generalizing acc with
  | nil => simp [readAddrs_zero]
  | cons a t ih =>
    rw [List.length_cons, readAddrs_succ_some]
    refine ⟨routerAddressCodec.write a, writeAll routerAddressCodec t ++ x, ?_, ?_⟩
    · rw [writeAll_cons, List.append_assoc]
      exact routerAddress_readRouterAddress a _ (h a (by simp)) (hm a (by simp))
    · rw [ih _ (fun q hq => h q (List.mem_cons_of_mem _ hq)) (fun q hq => hm q (List.mem_cons_of_mem _ hq)),
        writeAll_cons, List.append_assoc]

theorem identity_drop_block (v : SIdentity) (y : Bytes) (h : v.wf) :
    (identityCodec.write v ++ y).drop 384 = [v.certType] ++ (beEnc 2 v.certPayload.length ++ (v.certPayload ++ y)) := by
  rw [identityCodec_write, List.append_assoc, List.drop_left' (identity_block_length v h)]
  simp only [List.append_assoc]

/-- `ReadRouterInfo` and `ReadLeaseSet` decide "KEY certificate" by the certificate kind -/
theorem identity_isKey (v : SIdentity) : ([v.certType] == [5]) = !v.nullCert := by
  unfold SIdentity.certType
  cases v.nullCert <;> rfl

/-- a value looked up by "KEY certificate ? f spk : default" is `f` of the identity's signing type: a NULL certificate
    means type 0 (DSA-SHA1), whose entry is the default -/
theorem identity_sizeBy (v : SIdentity) (h : v.wf) (f : Nat → Nat) (dflt : Nat) (h0 : f 0 = dflt) :
    (if (!v.nullCert) = true then f v.sigType else dflt) = f v.sigType := by
  cases hn : v.nullCert with
  | true =>
    unfold SIdentity.wf at h
    rw [if_pos hn] at h
    rw [h.1, h0]; rfl
  | false => rfl

theorem readRouterInfo_of_tail {v : SIdentity} {T b rem : Bytes} (h : v.wf) (hs : KacSupported v)
    (ha : ridAllowed v.sigType v.cryptoType = true) (ht : RiTail (identityCodec.write v) v.sigType T b rem) :
    readRouterInfo (identityCodec.write v ++ T) = some (b, rem) := by
  obtain ⟨k, hr, hb, -, -, -, hspk, -⟩ := identity_readPolicy readRouterIdentity_iff v T h hs ha
  rw [readRouterInfo_some]
  refine ⟨k, T, _, hr, hb, ?_⟩
  -- the signature type is the key certificate's if there is one, else 0
  rw [identity_drop_block v T h]
  show RiTail _ (if ([v.certType] == [5]) = true then k.kc.spk else 0) T b rem
  rw [identity_isKey, hspk, identity_sizeBy v h (fun s => s) 0 rfl]
  exact ht

/-- restrictions of `ReadRouterInfo` relative to the layout -/
structure RouterInfoAccepted (v : SRouterInfo) : Prop where
  /-- key types the library can construct, and the RouterIdentity key-type policy -/
  ident : KacSupported v.ident ∧ ridAllowed v.ident.sigType v.ident.cryptoType = true
  /-- the parser reads the peer count byte but never the peer hashes: only `peers = []` (what every router writes) parses as specified -/
  peers : v.peers = []
  addresses : ∀ a ∈ v.addresses, MappingAccepted a.options
  options : MappingAccepted v.options

/-- the certificate at offset 384 delimits the destination, which is then read from exactly its own bytes -/
theorem readLeaseSet_of_tail {v : SIdentity} {R b rem : Bytes} (h : v.wf) (hs : DestSupported v)
    (ht : LsTail (identityCodec.write v) (!v.nullCert) v.sigType R b rem) :
    readLeaseSet (identityCodec.write v ++ R) = some (b, rem) := by
  have hlen := identity_length v h
  have hpl : v.certPayload.length < 65536 := h.payload_lt
  obtain ⟨k, hr, hb, -, -, -, hspk, -⟩ := identity_readPolicy readDestination_iff v [] h hs.1 hs.2
  rw [List.append_nil] at hr
  have hcert := (readCert_mk [v.certType] (beEnc 2 v.certPayload.length) v.certPayload R rfl
    (beEnc_length _ _) (beVal_beEnc 2 _ hpl)).1
  have hdecl : Cert.declared ⟨[v.certType], beEnc 2 v.certPayload.length, v.certPayload ++ R⟩ = v.certPayload.length :=
    beVal_beEnc 2 _ hpl
  rw [readLeaseSet_some, List.length_append, hlen]
  refine ⟨Nat.le_add_right_of_le (Nat.le_add_right _ _), _, _, k, _,
    by rw [identity_drop_block v R h]; simpa only [List.append_assoc] using hcert, ?_, ?_, hb, ?_⟩
  · rw [hdecl]; exact Nat.le_add_right _ _
  · rw [hdecl, List.take_left' hlen]; exact hr
  · rw [hdecl, List.drop_left' hlen, identity_isKey, hspk]; exact ht

/-- restrictions of `ReadLeaseSet` relative to the layout -/
structure LeaseSetAccepted (v : SLeaseSet) : Prop where
  dest : DestSupported v.dest
  /-- the ElGamal key VALUE is checked (2 ≤ Y < p − 1, as approximated by the model's `elgValid`) -/
  encKeyValue : elgValid v.encKey = true
  /-- for a NULL-certificate destination the DSA revocation key VALUE is checked (`dsaValid`) -/
  signingKeyValue : v.dest.nullCert = true → dsaValid v.signingKey = true

end I2P.SpecLemmas
