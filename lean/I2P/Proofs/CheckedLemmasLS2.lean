import I2P.Proofs.CheckedLemmas
import I2P.Proofs.StructLemmas
/-! The parse helpers of `ReadLeaseSet2` (`I2P/Checked.lean`), each against the piece of the pure `readLeaseSet2` it
    mirrors (`ls2Head`, `keysPure`, `leasesPure`, `ls2Tail` of `StructLemmas.lean`).  A stage lemma says: no panic; if it
    fails so does the pure piece; if it succeeds it has written exactly the named fields of `ls2`. -/

namespace I2P.Checked
open I2P.Kac I2P.Structs
attribute [local congr] Go.bind_congr

theorem parseHeaderFieldsC_eq (ls2 : LS2) (s : Sl) (h : 8 ≤ s.len) :
    parseHeaderFieldsC ls2 s = .ok
      ({ ls2 with published := beVal (s.data.take 4), expires := beVal ((s.data.drop 4).take 2), flags := beVal ((s.data.drop 6).take 2) },
       s.drop 8) := by
  unfold parseHeaderFieldsC
  go_simp []

theorem parseDestinationAndHeaderC_spec (ls2 : LS2) (s : Sl) :
    ∃ r, parseDestinationAndHeaderC ls2 s = .ok r ∧
      match r with
      | none => ls2Head s.data = none
      | some (l, rem) => ∃ k pub exp fl,
          l = { ls2 with destination := some k, published := pub, expires := exp, flags := fl } ∧
          ls2Head s.data = some (k, pub, exp, fl, rem.data) := by
  unfold parseDestinationAndHeaderC ls2Head
  by_cases h : s.len < 499
  · simp only [go, h]
  rcases refines_cases (readDestinationS_spec s) with ⟨hc, hp⟩ | ⟨⟨k, rem⟩, hc, hp⟩
  · simp only [go, h, hc, hp]
  by_cases h8 : rem.len < 8
  · simp only [go, h, hc, hp, h8]
  · simp only [go, h, hc, hp, h8, parseHeaderFieldsC_eq _ rem (by omega)]
    exact ⟨_, _, _, _, rfl, rfl⟩

/-- the serialised offline signature and the type of the final signature, as the pure model tracks them -/
def LS2.offView (l : LS2) (k : KeysAndCert) : Bytes × Nat :=
  match l.offlineSignature with
  | none => ([], k.kc.spk)
  | some o => (o.bytes, o.sigtype)

theorem parseOfflineSignatureC_spec (ls2 : LS2) (s : Sl) (k : KeysAndCert) (hd : ls2.destination = some k)
    (ho : ls2.offlineSignature = none) :
    ∃ r, parseOfflineSignatureC ls2 s = .ok r ∧
      match r with
      | none => (if ls2.flags % 2 = 1 then readOffSig s.data (k.kc.spk % 65536) else some ([], s.data, k.kc.spk)) = none
      | some (l, rem) => ∃ oo : Option OffSig, l = { ls2 with offlineSignature := oo } ∧
          (oo.isSome ↔ ls2.flags % 2 = 1) ∧
          (if ls2.flags % 2 = 1 then readOffSig s.data (k.kc.spk % 65536) else some ([], s.data, k.kc.spk)) =
            some (offBytes oo, rem.data, offSigT oo k.kc.spk) := by
  unfold parseOfflineSignatureC LS2.hasOfflineKeys
  by_cases hf : ls2.flags % 2 = 1
  · simp only [go, hf, hd, deref]
    rcases refines_cases (readOffSigS_spec s (k.kc.spk % 65536)) with ⟨hc, hp⟩ | ⟨⟨o, rem⟩, hc, hp⟩ <;>
      simp only [go, hc, hp]
    exact ⟨some o, rfl, by simp, rfl⟩
  · simp only [go, hf]
    exact ⟨none, by rw [← ho], by simp, rfl⟩

theorem extractEncryptionKeyHeaderC_eq (s : Sl) (h : 4 ≤ s.len) :
    extractEncryptionKeyHeaderC s = .ok (beVal (s.data.take 2), beVal ((s.data.drop 2).take 2), s.drop 4) := by
  unfold extractEncryptionKeyHeaderC
  go_simp []

/-- the key the loop body stores for input `d` -/
def keyOf (d : Bytes) : EncKey :=
  { keyType := beVal (d.take 2), keyLen := beVal ((d.drop 2).take 2),
    keyData := (d.drop 4).take (beVal ((d.drop 2).take 2)) }

theorem keyOf_bytes (d : Bytes) (h : 4 + beVal ((d.drop 2).take 2) ≤ d.length) :
    (keyOf d).bytes = d.take (4 + beVal ((d.drop 2).take 2)) := by
  simp only [EncKey.bytes, keyOf]
  have b1 := beEnc_beVal_take d 0 2 (by omega)
  have b2 := beEnc_beVal_take d 2 2 (by omega)
  simp only [List.drop_zero] at b1
  rw [b1, b2, ← List.take_add, ← List.take_add]

/-- `parseSingleEncryptionKey` up to the indexed store, for any index -/
theorem parseSingleEncryptionKeyC_eq (ls2 : LS2) (i : Int) (s : Sl) :
    parseSingleEncryptionKeyC ls2 i s =
      if s.len < 4 then .ok none else
      if s.len - 4 < (keyOf s.data).keyLen then .ok none else do
        let l ← storeEncryptionKeyC ls2 i (keyOf s.data)
        return some (l, s.drop (4 + (keyOf s.data).keyLen)) := by
  unfold parseSingleEncryptionKeyC keyOf
  rw [show extractEncryptionKeyDataC = fun d (n : Nat) => extractPrefixCopyC d n from rfl]
  by_cases h4 : s.len < 4
  · simp only [go, h4]
  have hh := extractEncryptionKeyHeaderC_eq s (Nat.le_of_not_lt h4)
  by_cases hk : s.len - 4 < beVal ((s.data.drop 2).take 2)
  · simp only [go, h4, hk, hh]
  · simp only [go, h4, hk, hh, extractPrefixCopyC_eq (s.drop 4) (beVal ((s.data.drop 2).take 2)) (by bounds)]

theorem parseSingleEncryptionKeyC_consumes {ls2 : LS2} {i : Int} {s : Sl} {l' : LS2} {s' : Sl}
    (h : parseSingleEncryptionKeyC ls2 i s = .ok (some (l', s'))) : s'.len + 4 ≤ s.len := by
  rw [parseSingleEncryptionKeyC_eq] at h
  split at h
  · cases h
  split at h
  · cases h
  obtain ⟨_, -, h⟩ := bind_eq_ok.mp h
  cases h
  bounds

theorem readKeys_succ (n : Nat) (d : Bytes) :
    readKeys (n + 1) d [] = if d.length < 4 then none else if d.length - 4 < (keyOf d).keyLen then none else
      (readKeys n (d.drop (4 + (keyOf d).keyLen)) []).map (fun p => ((keyOf d).bytes ++ p.1, p.2)) := by
  rw [readKeys]
  show (if d.length < 4 then none else if (d.drop 4).length < (keyOf d).keyLen then none else
    readKeys n ((d.drop 4).drop (keyOf d).keyLen) ([] ++ d.take (4 + (keyOf d).keyLen))) = _
  rw [List.length_drop, List.drop_drop, List.nil_append, readKeys_acc]
  split
  · rfl
  split
  · rfl
  · rename_i h4 hk
    rw [keyOf_bytes d (by simp only [keyOf] at hk; omega)]; rfl

theorem keysLoop_spec (fuel i : Nat) (ls2 : LS2) (s : Sl) (hi : i + fuel = ls2.encryptionKeys.length) :
    ∃ r, parseEncryptionKeysLoopC fuel (i : Int) ((i + fuel : Nat) : Int) ls2 s = .ok r ∧
      match r with
      | none => readKeys fuel s.data [] = none
      | some (l, rem, n) => n = fuel ∧ rem.len + 4 * fuel ≤ s.len ∧
          ∃ ks : List EncKey, ks.length = fuel ∧
            l = { ls2 with encryptionKeys := ls2.encryptionKeys.take i ++ ks.map some } ∧
            readKeys fuel s.data [] = some (ks.flatMap EncKey.bytes, rem.data) := by
  induction fuel generalizing i ls2 s with
  | zero =>
    exact ⟨_, rfl, rfl, by omega, [], rfl,
      by rw [List.map_nil, List.append_nil, List.take_of_length_le (show _ ≤ i from Nat.le_of_eq hi.symm)], rfl⟩
  | succ fuel ih =>
    have hlt : (i : Int) < ((i + (fuel + 1) : Nat) : Int) := by omega
    have hi : i < ls2.encryptionKeys.length := by omega
    rw [parseEncryptionKeysLoopC, parseSingleEncryptionKeyC_eq, readKeys_succ]
    by_cases h4 : s.len < 4
    · simp only [go, hlt, h4]
    by_cases hk : s.len - 4 < (keyOf s.data).keyLen
    · simp only [go, hlt, h4, hk]
    obtain ⟨r, hr, hm⟩ := ih (i + 1) { ls2 with encryptionKeys := ls2.encryptionKeys.set i (some (keyOf s.data)) }
      (s.drop (4 + (keyOf s.data).keyLen)) (by rw [List.length_set]; omega)
    rw [Int.natCast_succ, show i + 1 + fuel = i + (fuel + 1) by omega] at hr
    rcases r with _ | ⟨l, rem, n⟩
    · simp only [go] at hm
      simp only [go, hlt, h4, hk, storeEncryptionKeyC, setAt_eq hi, hr, hm]
    · obtain ⟨hn, hlen, ks, hks, hl, hrk⟩ := hm
      simp only [go] at hrk hlen
      simp only [go, hlt, h4, hk, storeEncryptionKeyC, setAt_eq hi, hr, hrk]
      exact ⟨by omega, by omega, keyOf s.data :: ks, congrArg (· + 1) hks,
        by rw [hl, take_set_succ_append hi, List.map_cons], rfl⟩

theorem parseEncryptionKeysC_spec (ls2 : LS2) (s : Sl) :
    ∃ r, parseEncryptionKeysC ls2 s = .ok r ∧
      match r with
      | none => keysPure s.data = none
      | some (l, rem) => ∃ (nk : UInt8) (ks : List EncKey), ks.length = nk.toNat ∧ 1 ≤ nk.toNat ∧ nk.toNat ≤ 16 ∧
          l = { ls2 with encryptionKeys := ks.map some } ∧ rem.len + 1 + 4 * ks.length ≤ s.len ∧
          s.data.head? = some nk ∧ keysPure s.data = some (ks.flatMap EncKey.bytes, rem.data) := by
  unfold parseEncryptionKeysC
  cases hd : s.data with
  | nil => simp only [go, Sl.len_of_data_nil hd]; rfl
  | cons nk t =>
    obtain ⟨hl, h1, h2, h3⟩ := head_drop hd
    have h0 : ¬ s.len < 1 := by omega
    by_cases hn : nk.toNat < 1 ∨ 16 < nk.toNat
    · simp only [go, h0, h1, h2, hn, keysPure]
    obtain ⟨r, hr, hm⟩ := keysLoop_spec nk.toNat 0 { ls2 with encryptionKeys := List.replicate nk.toNat none } (s.drop 1)
      (by simp)
    simp only [Nat.zero_add, go, h3] at hr hm
    rcases r with _ | ⟨l, rem, n⟩
    · simp only [go, h0, h1, h2, hn, hr, keysPure, show readKeys nk.toNat t [] = none from hm]
    · obtain ⟨-, hlen', ks, hks, hl', hrk⟩ := hm
      simp only [go, h0, h1, h2, hn, hr, keysPure, hrk]
      exact ⟨nk, ks, hks, by omega, by omega, by rw [hl']; simp, by omega, rfl, rfl⟩

theorem leaseLoop_spec (fuel i : Nat) (leases : List Bytes) (s : Sl) (hi : i + fuel = leases.length) :
    ∃ r, parseLease2ArrayLoopC fuel (i : Int) ((i + fuel : Nat) : Int) leases s = .ok r ∧
      match r with
      | none => readFixed fuel 40 s.data = none
      | some (ls, rem, n) => n = fuel ∧ rem.len + 40 * fuel = s.len ∧
          ∃ xs : List Bytes, xs.length = fuel ∧ ls = leases.take i ++ xs ∧
            readFixed fuel 40 s.data = some (xs.flatten, rem.data) := by
  induction fuel generalizing i leases s with
  | zero =>
    exact ⟨_, rfl, rfl, by omega, [], rfl,
      ((List.append_nil _).trans (List.take_of_length_le (Nat.le_of_eq hi.symm))).symm, rfl⟩
  | succ fuel ih =>
    have hlt : (i : Int) < ((i + (fuel + 1) : Nat) : Int) := by omega
    have hi : i < leases.length := by omega
    rw [parseLease2ArrayLoopC, readLease2S_eq, readFixed_succ]
    by_cases h : s.len < 40
    · simp only [go, hlt, h]
    obtain ⟨r, hr, hm⟩ := ih (i + 1) (leases.set i (s.data.take 40)) (s.drop 40) (by rw [List.length_set]; omega)
    rw [Int.natCast_succ, show i + 1 + fuel = i + (fuel + 1) by omega] at hr
    rcases r with _ | ⟨ls, rem, n⟩
    · simp only [go] at hm
      simp only [go, hlt, h, setAt_eq hi, hr, hm]
    · obtain ⟨hn, hlen, xs, hxs, hl, hrk⟩ := hm
      simp only [go] at hrk hlen
      simp only [go, hlt, h, setAt_eq hi, hr, hrk]
      exact ⟨by omega, by omega, s.data.take 40 :: xs, congrArg (· + 1) hxs,
        by rw [hl, take_set_succ_append hi], rfl⟩

theorem parseLeasesC_spec (ls2 : LS2) (s : Sl) :
    ∃ r, parseLeasesC ls2 s = .ok r ∧
      match r with
      | none => leasesPure s.data = none
      | some (l, rem) => ∃ (nl : UInt8) (xs : List Bytes), xs.length = nl.toNat ∧ nl.toNat ≤ 16 ∧
          l = { ls2 with leases := xs } ∧ rem.len + 1 + 40 * xs.length = s.len ∧
          s.data.head? = some nl ∧ leasesPure s.data = some (xs.flatten, rem.data) := by
  unfold parseLeasesC parseLease2ArrayC
  cases hd : s.data with
  | nil => simp only [go, Sl.len_of_data_nil hd]; rfl
  | cons nl t =>
    obtain ⟨hl, h1, h2, h3⟩ := head_drop hd
    have h0 : ¬ s.len < 1 := by omega
    by_cases hn : 16 < nl.toNat
    · simp only [go, h0, h1, h2, hn, leasesPure]
    obtain ⟨r, hr, hm⟩ := leaseLoop_spec nl.toNat 0 (List.replicate nl.toNat []) (s.drop 1) (by simp)
    simp only [Nat.zero_add, go, h3] at hr hm
    rcases r with _ | ⟨ls, rem, n⟩
    · simp only [go, h0, h1, h2, hn, Nat.not_lt_zero, hr, leasesPure, show readFixed nl.toNat 40 t = none from hm]
    · obtain ⟨-, hlen', xs, hxs, hl', hrk⟩ := hm
      simp only [go, h0, h1, h2, hn, Nat.not_lt_zero, hr, leasesPure, hrk]
      exact ⟨nl, xs, hxs, by omega, by rw [hl']; simp, by omega, rfl, rfl⟩

/-- the type of the trailing signature: the transient type when an offline signature is present -/
def LS2.sigTypeOf (l : LS2) (k : KeysAndCert) : Nat :=
  match l.offlineSignature with
  | some o => if l.flags % 2 = 1 then o.sigtype else k.kc.spk
  | none => k.kc.spk

theorem parseSignatureAndFinalizeC_spec (ls2 : LS2) (s : Sl) (k : KeysAndCert) (hd : ls2.destination = some k) :
    ∃ r, parseSignatureAndFinalizeC ls2 s = .ok r ∧
      match r with
      | none => readSig s.data (ls2.sigTypeOf k) = none
      | some (l, rem) => ∃ sb, l = { ls2 with signature := sb } ∧
          readSig s.data (ls2.sigTypeOf k) = some (sb, rem.data) := by
  have hty : (if (ls2.hasOfflineKeys && ls2.offlineSignature.isSome) = true then do
        let o ← deref ls2.offlineSignature
        pure (o.sigtype : Int)
      else do
        let dest ← deref ls2.destination
        pure (dest.kc.spk : Int) : Go Int) = .ok ((ls2.sigTypeOf k : Nat) : Int) := by
    simp only [LS2.hasOfflineKeys, LS2.sigTypeOf, hd, deref, go]
    cases ls2.offlineSignature with
    | none => simp
    | some o => by_cases hf : ls2.flags % 2 = 1 <;> simp [hf]
  unfold parseSignatureAndFinalizeC
  rw [hty]
  rcases refines_cases (readSigS_spec s (ls2.sigTypeOf k)) with ⟨hc, hp⟩ | ⟨⟨sb, rem⟩, hc, hp⟩ <;> simp only [go, hc, hp]
  exact ⟨sb, rfl, rfl⟩

/-- what the parse helpers leave in `ls2`, re-serialised like the pure model does -/
def LS2.tailBytes (l : LS2) : Bytes :=
  [UInt8.ofNat l.encryptionKeys.length] ++
    l.encryptionKeys.flatMap (fun o => match o with | none => [] | some k => k.bytes) ++
    [UInt8.ofNat l.leases.length] ++ l.leases.flatten ++ l.signature

theorem parseKeysLeasesAndSignatureC_spec (ls2 : LS2) (s : Sl) (k : KeysAndCert) (hd : ls2.destination = some k) :
    ∃ r, parseKeysLeasesAndSignatureC ls2 s = .ok r ∧
      match r with
      | none => ls2Tail (ls2.sigTypeOf k) s.data = none
      | some (l, rem) => ∃ ks xs sb, l = { ls2 with encryptionKeys := ks, leases := xs, signature := sb } ∧
          ls2Tail (ls2.sigTypeOf k) s.data = some (l.tailBytes, rem.data) := by
  unfold parseKeysLeasesAndSignatureC
  rw [ls2Tail_stages]
  refine bind_spec (parseEncryptionKeysC_spec ls2 s) ?_
  rintro (_ | ⟨l1, s1⟩) hm1 <;> simp only [] at hm1
  · simp only [go, hm1, Option.bind_none]
  obtain ⟨nk, ks, hks, -, -, rfl, -, hh1, hp1⟩ := hm1
  simp only [go, hp1, Option.bind_some]
  refine bind_spec (parseLeasesC_spec _ s1) ?_
  rintro (_ | ⟨l2, s2⟩) hm2 <;> simp only [] at hm2
  · simp only [go, hm2, Option.bind_none]
  obtain ⟨nl, xs, hxs, -, rfl, -, hh2, hp2⟩ := hm2
  simp only [go, hp2, Option.bind_some]
  obtain ⟨r3, hr3, hm3⟩ :=
    parseSignatureAndFinalizeC_spec { ls2 with encryptionKeys := ks.map some, leases := xs } s2 k hd
  refine ⟨r3, hr3, ?_⟩
  rcases r3 with _ | ⟨l3, s3⟩ <;> simp only [] at hm3
  · simp only [show readSig s2.data (ls2.sigTypeOf k) = none from hm3, Option.map_none]
  obtain ⟨sb, rfl, hp3⟩ := hm3
  simp only [show readSig s2.data (ls2.sigTypeOf k) = some (sb, s3.data) from hp3, Option.map_some]
  exact ⟨_, _, _, rfl, by
    simp only [LS2.tailBytes, List.length_map, hks, hxs, List.flatMap_map, head?_headD hh1, head?_headD hh2,
      UInt8.ofNat_toNat]⟩

end I2P.Checked
