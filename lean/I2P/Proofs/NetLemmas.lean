import I2P.RouterAddrAcc
/-! Helper lemmas about the `net.ParseIP` / `strconv.Atoi` models (`I2P/NetAddr.lean`) and the option
    lookup (`I2P/RouterAddrAcc.lean`). -/

namespace I2P.NetAddr

/-- the bytes an IP literal may consist of: ASCII hex digits, `.` and `:` -/
def IsLit (c : UInt8) : Prop := isHexDigit c = true ∨ c = 46 ∨ c = 58

theorem isHexDigit_iff {c : UInt8} : isHexDigit c = true ↔
    (48 ≤ c.toNat ∧ c.toNat ≤ 57) ∨ (97 ≤ c.toNat ∧ c.toNat ≤ 102) ∨ (65 ≤ c.toNat ∧ c.toNat ≤ 70) := by
  unfold isHexDigit
  fun_cases hexVal c
  all_goals simp only [Option.isSome_some, Option.isSome_none, true_iff, Bool.false_eq_true, false_iff]
  all_goals omega

theorem isDigit_iff {c : UInt8} : isDigit c = true ↔ 48 ≤ c.toNat ∧ c.toNat ≤ 57 := by
  simp only [isDigit, Bool.and_eq_true, decide_eq_true_eq]

theorem isDigit_isHex {c : UInt8} (h : isDigit c = true) : isHexDigit c = true :=
  isHexDigit_iff.mpr (Or.inl (isDigit_iff.mp h))

theorem hexVal_isHex {c : UInt8} {d : Nat} (h : hexVal c = some d) : isHexDigit c = true := by
  simp [isHexDigit, h]

theorem v4Fields_lit (s : Bytes) (val dl pos : Nat) (prev : Option UInt8) (fs r : List Nat)
    (h : v4Fields s val dl pos prev fs = some r) : ∀ b ∈ s, isDigit b = true ∨ b = 46 := by
  fun_induction v4Fields s val dl pos prev fs
  case case2 => simp
  case case5 hd _ _ _ ih => exact List.forall_mem_cons.mpr ⟨Or.inl hd, ih h⟩
  case case8 h46 _ _ ih => exact List.forall_mem_cons.mpr ⟨Or.inr (by simpa using h46), ih h⟩
  all_goals cases h

theorem parseV4_lit {s : Bytes} {r : List Nat} (h : parseV4 s = some r) : ∀ b ∈ s, IsLit b := by
  intro b hb
  rcases v4Fields_lit s _ _ _ _ _ _ h b hb with hd | h46
  · exact Or.inl (isDigit_isHex hd)
  · exact Or.inr (Or.inl h46)

theorem hexGroup_lit {s : Bytes} {acc off v o : Nat} {rest : Bytes} (hg : hexGroup s acc off = some (v, o, rest))
    (hrest : ∀ b ∈ rest, IsLit b) : ∀ b ∈ s, IsLit b := by
  fun_induction hexGroup s acc off
  case case1 => cases hg; exact hrest
  case case2 => cases hg; exact hrest
  case case3 => cases hg
  case case4 hd _ ih => exact List.forall_mem_cons.mpr ⟨Or.inl (hexVal_isHex hd), ih hg⟩

theorem isLit_colon {c : UInt8} (h : (c == 58) = true) : IsLit c := Or.inr (Or.inr (by simpa using h))

/-- each round reads hex digits (`hexGroup_lit`), then the end, one or two colons, or a dot, in which case all
    of `s` goes to `parseV4` -/
theorem v6loop_lit (fuel : Nat) (s : Bytes) (i : Nat) (ell : Option Nat) (acc : List Nat)
    (r : List Nat × Nat × Option Nat) (h : v6loop fuel s i ell acc = some r) : ∀ b ∈ s, IsLit b := by
  fun_induction v6loop fuel s i ell acc
  case case2 he => simp [List.isEmpty_iff.mp he]
  case case6 hg => exact hexGroup_lit hg (by simp)
  case case10 hv4 _ => exact parseV4_lit hv4
  case case13 hc _ _ hd _ he hg =>
    exact hexGroup_lit hg (by simp [List.isEmpty_iff.mp he, isLit_colon hc, isLit_colon hd])
  case case14 hc _ _ hd _ _ hg ih =>
    exact hexGroup_lit hg (List.forall_mem_cons.mpr ⟨isLit_colon hc, List.forall_mem_cons.mpr ⟨isLit_colon hd, ih h⟩⟩)
  case case15 hc _ _ _ hg ih => exact hexGroup_lit hg (List.forall_mem_cons.mpr ⟨isLit_colon hc, ih h⟩)
  all_goals cases h

/-- `parseIPv6` takes one leading `::` off -/
theorem strip_cases {s s' : Bytes} {ell0 : Option Nat}
    (hm : (match s with
      | a :: b :: rest => if (a == 58 && b == 58) = true then (rest, some 0) else (s, none)
      | _ => (s, none)) = (s', ell0)) : s = s' ∨ s = 58 :: 58 :: s' := by
  split at hm
  · split at hm
    · rename_i a b rest hab
      simp only [Bool.and_eq_true, beq_iff_eq] at hab
      cases hm; rw [hab.1, hab.2]; exact Or.inr rfl
    · cases hm; exact Or.inl rfl
  · cases hm; exact Or.inl rfl

theorem parseV6_lit {s : Bytes} {r : List Nat} (h : parseV6 s = some r) : ∀ b ∈ s, IsLit b := by
  have fin : ∀ s', (s = s' ∨ s = 58 :: 58 :: s') → (∀ b ∈ s', IsLit b) → ∀ b ∈ s, IsLit b := by
    rintro s' (rfl | rfl) hl
    · exact hl
    · exact List.forall_mem_cons.mpr ⟨Or.inr (Or.inr rfl), List.forall_mem_cons.mpr ⟨Or.inr (Or.inr rfl), hl⟩⟩
  revert h
  fun_cases parseV6 s
  case case2 s' _ hm he =>
    rw [Bool.and_eq_true, List.isEmpty_iff] at he
    exact fun _ => fin s' (strip_cases hm) (by rw [he.2]; simp)
  case case5 s' _ hm _ _ _ _ _ hl => exact fun _ => fin s' (strip_cases hm) (v6loop_lit _ _ _ _ _ _ hl)
  case case7 s' _ hm _ _ _ _ hl _ _ => exact fun _ => fin s' (strip_cases hm) (v6loop_lit _ _ _ _ _ _ hl)
  all_goals exact nofun

theorem parseIP_lit {s : Bytes} {a : List Nat} (h : parseIP s = some a) : ∀ b ∈ s, IsLit b := by
  revert h
  fun_cases parseIP s
  case case2 => exact fun h => let ⟨_, hv, _⟩ := Option.map_eq_some_iff.mp h; parseV4_lit hv
  case case3 => exact parseV6_lit
  all_goals exact nofun

/-- `Atoi` takes one leading sign off -/
theorem sign_cases {s ds : Bytes} {neg : Bool}
    (hm : (match s with
      | [] => (false, [])
      | c :: r => if (c == 43) = true then (false, r) else if (c == 45) = true then (true, r) else (false, s)) =
      (neg, ds)) : s = ds ∨ s = 43 :: ds ∨ s = 45 :: ds := by
  split at hm
  · cases hm; exact Or.inl rfl
  · split at hm
    · rename_i h; cases hm; rw [beq_iff_eq.mp h]; exact Or.inr (Or.inl rfl)
    · split at hm
      · rename_i h; cases hm; rw [beq_iff_eq.mp h]; exact Or.inr (Or.inr rfl)
      · cases hm; exact Or.inl rfl

theorem digits_ok {ds : Bytes} (h : ¬ (ds.isEmpty || !ds.all isDigit) = true) :
    ds ≠ [] ∧ ∀ b ∈ ds, isDigit b = true := by
  simp only [Bool.or_eq_true, Bool.not_eq_true', not_or, Bool.not_eq_true, Bool.not_eq_false, List.isEmpty_eq_false_iff,
    List.all_eq_true] at h
  exact h

theorem atoi_shape {s : Bytes} {n : Int} (h : atoi s = some n) :
    ∃ ds, (s = ds ∨ s = 43 :: ds ∨ s = 45 :: ds) ∧ ds ≠ [] ∧ (∀ b ∈ ds, isDigit b = true) ∧
      (n = (digitsVal ds : Int) ∨ n = -(digitsVal ds : Int)) := by
  revert h
  fun_cases atoi s
  case case2 ds hd _ _ hm =>
    exact fun h => ⟨ds, sign_cases hm, (digits_ok hd).1, (digits_ok hd).2, Or.inr (Option.some.inj h).symm⟩
  case case4 _ ds hm hd _ _ _ =>
    exact fun h => ⟨ds, sign_cases hm, (digits_ok hd).1, (digits_ok hd).2, Or.inl (Option.some.inj h).symm⟩
  all_goals exact nofun

theorem digitsVal_snoc (ds : Bytes) (d : UInt8) : digitsVal (ds ++ [d]) = digitsVal ds * 10 + (d.toNat - 48) := by
  simp [digitsVal, List.foldl_append]

theorem digit_toNat (k : Nat) (h : k < 10) : (UInt8.ofNat (48 + k)).toNat = 48 + k :=
  UInt8.toNat_ofNat_of_lt' (by show 48 + k < 256; omega)

theorem isDigit_digit (k : Nat) (h : k < 10) : isDigit (UInt8.ofNat (48 + k)) = true := by
  rw [isDigit_iff, digit_toNat k h]; omega

theorem decimalAux_spec (fuel n : Nat) (acc : Bytes) (h : n < fuel) :
    ∃ D, decimalAux fuel n acc = D ++ acc ∧ (∀ b ∈ D, isDigit b = true) ∧ digitsVal D = n ∧
      ∃ c t, D = c :: t ∧ (0 < n → 49 ≤ c.toNat) := by
  fun_induction decimalAux fuel n acc
  case case1 => omega
  case case2 fuel n acc h10 =>
    refine ⟨[UInt8.ofNat (48 + n)], rfl, by simpa using isDigit_digit n h10, ?_, _, [], rfl, ?_⟩
    · show 0 * 10 + ((UInt8.ofNat (48 + n)).toNat - 48) = n
      rw [digit_toNat n h10]; omega
    · rw [digit_toNat n h10]; omega
  case case3 fuel n acc h10 ih =>
    have hd := digit_toNat (n % 10) (Nat.mod_lt _ (by decide))
    obtain ⟨D, h1, h2, h3, c, t, h4, h5⟩ := ih (by omega)
    refine ⟨D ++ [UInt8.ofNat (48 + n % 10)], by rw [h1, List.append_assoc]; rfl, ?_, ?_, c, t ++ [_], by rw [h4]; rfl,
      fun _ => h5 (by omega)⟩
    · exact List.forall_mem_append.mpr ⟨h2, by simpa using isDigit_digit _ (Nat.mod_lt _ (by decide))⟩
    · rw [digitsVal_snoc, h3, hd]; omega

theorem atoi_digits {ds : Bytes} (hne : ds ≠ []) (hd : ∀ b ∈ ds, isDigit b = true)
    (hv : digitsVal ds ≤ 9223372036854775807) : atoi ds = some (digitsVal ds : Int) := by
  obtain ⟨c, t, rfl⟩ := List.exists_cons_of_ne_nil hne
  have hc : 48 ≤ c.toNat := (isDigit_iff.mp (hd c List.mem_cons_self)).1
  have h43 : (c == 43) = false := by rw [beq_eq_false_iff_ne]; rintro rfl; simp at hc
  have h45 : (c == 45) = false := by rw [beq_eq_false_iff_ne]; rintro rfl; simp at hc
  have hall : (c :: t).all isDigit = true := List.all_eq_true.mpr hd
  simp only [atoi, h43, h45, Bool.false_eq_true, if_false, hall, List.isEmpty_cons, Bool.not_true, Bool.or_self, if_pos hv]

theorem decimal_spec (n : Nat) (h : n < 2^63) :
    atoi (decimal n) = some (n : Int) ∧ (∀ b ∈ decimal n, isDigit b = true) ∧
      ∃ c t, decimal n = c :: t ∧ (0 < n → 49 ≤ c.toNat) := by
  obtain ⟨D, h1, h2, h3, c, t, h4, h5⟩ := decimalAux_spec (n + 1) n [] (by omega)
  rw [List.append_nil] at h1
  rw [decimal, h1]
  exact ⟨by rw [atoi_digits (by rw [h4]; simp) h2 (by omega), h3], h2, c, t, h4, h5⟩

end I2P.NetAddr

namespace I2P.RouterAddr
open I2P.Mapping I2P.NetAddr

theorem toI2PString_ok (k : Bytes) (h : k.length ≤ 255) :
    strDataOk (toI2PString k) = true ∧ strData (toI2PString k) = k := by
  have h1 : (UInt8.ofNat k.length).toNat = k.length := UInt8.toNat_ofNat_of_lt' (by show k.length < 256; omega)
  unfold toI2PString newStr
  rw [if_neg (by omega)]
  simp [strDataOk, strData, h1]

theorem toI2PString_long (k : Bytes) (h : k.length > 255) : toI2PString k = [] := by
  unfold toI2PString newStr
  rw [if_pos h]; rfl

theorem get_toI2PString (o : List Pair) (k : Bytes) (h : k.length ≤ 255) :
    get o (toI2PString k) = (o.find? fun p => strDataOk p.1 && strData p.1 == k).map (·.2) := by
  obtain ⟨h1, h2⟩ := toI2PString_ok k h
  unfold get
  rw [h1, h2]
  simp

theorem checkOption_eq (o : List Pair) (k : Bytes) : checkOption o k = nonNil (optString o k) := rfl

theorem extract_iff {o : List Pair} {k s : Bytes} :
    extractOptionBytes o k = some s ↔ lookup o k = some s ∧ s ≠ [] := by
  unfold extractOptionBytes lookup
  rw [checkOption_eq]
  cases optString o k with
  | none => simp [nonNil]
  | some v =>
    cases v with
    | nil => simp [nonNil, strDataOk]
    | cons l rest =>
      by_cases hok : strDataOk (l :: rest) = true <;> by_cases hl : strData (l :: rest) = [] <;>
        simp [nonNil, hok, hl]
      rintro rfl; exact hl

theorem atoi_nil : atoi [] = none := by decide

theorem fixedOption_iff {o : List Pair} {key k : Bytes} {n : Nat} :
    fixedOption o key n = some k ↔ lookup o key = some k ∧ k.length = n := by
  unfold fixedOption lookup
  cases optString o key with
  | none => simp
  | some v =>
    cases v with
    | nil => simp [strDataOk]
    | cons l rest =>
      by_cases h2 : strDataOk (l :: rest) = true <;> by_cases h3 : (strData (l :: rest)).length = n <;>
        simp [h2, h3] <;> (intro h; subst h; exact h3)

/-- `HasValidHost`, `HasValidPort` and `ipVersionFromHost` repeat the checks of `extractOptionBytes` in line:
    whatever they go on to compute (`F`) and return on failure (`X`), they compute it from its result.
    (Their `match` and the one written here are different constants that unfold to the same `casesOn`:
    use this with `Eq.trans`, which unifies up to unfolding; `rw` does not find it.) -/
theorem fetch_shape {α : Type} (o : List Pair) (K : Bytes) (X : α) (F : Bytes → α) :
    (match optString o K with
      | none => X
      | some v => if v.isEmpty then X else if !strDataOk v || (strData v).length == 0 then X else F (strData v)) =
    match extractOptionBytes o K with
      | none => X
      | some s => F s := by
  unfold extractOptionBytes
  rw [checkOption_eq]
  cases optString o K with
  | none => rfl
  | some v =>
    by_cases h1 : v.isEmpty = true <;> by_cases h2 : strDataOk v = true <;> by_cases h3 : strData v = [] <;>
      simp [nonNil, h1, h2, h3]

theorem fetch_guarded {α : Type} (o : List Pair) (K : Bytes) (X : α) (F : Bytes → α) :
    (if !checkOption o K then X else
      match optString o K with
      | none => X
      | some v => if v.isEmpty then X else if !strDataOk v || (strData v).length == 0 then X else F (strData v)) =
    match extractOptionBytes o K with
      | none => X
      | some s => F s := by
  rw [fetch_shape]
  split
  · rename_i h; simp only [extractOptionBytes, h, if_true]
  · rfl

theorem ipVersionFromHost_eq (o : List Pair) :
    ipVersionFromHost o = match host o with | some a => if isV4 a then [52] else [54] | none => [] := by
  unfold ipVersionFromHost hostString host resolveHostIP
  refine (fetch_shape (α := Bytes) o HOST_OPTION_KEY [] fun s =>
    match parseIP s with | none => [] | some ip => if isV4 ip then [52] else [54]).trans ?_
  cases extractOptionBytes o HOST_OPTION_KEY with
  | none => rfl
  | some s => dsimp only; cases parseIP s <;> rfl

theorem validatePortValue_iff {s p : Bytes} :
    validatePortValue s = some p ↔ ∃ n, atoi s = some n ∧ 1 ≤ n ∧ n ≤ 65535 ∧ p = decimal n.toNat := by
  unfold validatePortValue
  cases atoi s with
  | none => simp
  | some n =>
    by_cases hr : n < 1 ∨ n > 65535
    · simp only [hr, if_true, Option.some.injEq, exists_eq_left', false_iff, reduceCtorEq]; omega
    · simp only [hr, if_false, Option.some.injEq, exists_eq_left']
      exact ⟨fun h => ⟨by omega, by omega, h.symm⟩, fun h => h.2.2.symm⟩

theorem validatePortValue_isSome (s : Bytes) :
    (validatePortValue s).isSome = match atoi s with | none => false | some val => decide (val ≥ 1 ∧ val ≤ 65535) := by
  unfold validatePortValue
  cases atoi s with
  | none => rfl
  | some n => by_cases hr : n < 1 ∨ n > 65535 <;> simp [hr] <;> omega

end I2P.RouterAddr
