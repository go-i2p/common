import I2P.Checked3Meta
import I2P.Proofs.CheckedLemmasMapping
import I2P.Proofs.StructLemmas
/-! The parse helpers of `ReadMetaLeaseSet` (`I2P/Checked3Meta.lean`) against the pure `Structs.readMeta`: a leaf
    mirror gets a closed form (`_eq`), a mirror that calls a reader a `_spec`, the loop body a case principle against
    one round of the pure `readEntries`, the loop an induction on the fuel.  The reader itself is in
    `Props/C04d.lean`. -/

namespace I2P.Checked
open I2P.Structs
attribute [local congr] Go.bind_congr

/-- the four `validate…` helpers are used negated: each rejects exactly outside its bound -/
theorem metaValidateMinSizeC_iff (n : Int) : (!metaValidateMinSizeC n) = true ↔ n < 505 := by
  simp [metaValidateMinSizeC]
theorem metaValidateHeaderDataSizeC_iff (n : Int) : (!metaValidateHeaderDataSizeC n) = true ↔ n < 8 := by
  simp [metaValidateHeaderDataSizeC]
theorem metaValidateEntryMinSizeC_iff (n : Int) : (!metaValidateEntryMinSizeC n) = true ↔ n < 40 := by
  simp [metaValidateEntryMinSizeC]
theorem metaValidateEntryCountC_iff (n : Int) : (!metaValidateEntryCountC n) = true ↔ n < 1 ∨ 16 < n := by
  simp [metaValidateEntryCountC]
attribute [go] metaValidateMinSizeC_iff metaValidateHeaderDataSizeC_iff metaValidateEntryMinSizeC_iff
  metaValidateEntryCountC_iff

theorem metaWire_eq (m : MappingC) : m.metaWire = optionsBytes m := by
  unfold MappingC.metaWire optionsBytes MappingC.metaDataP MappingC.dataBytes
  cases m.size <;> rfl

/-- the right side is the `readOptions _ true` rule of the pure model -/
theorem metaWire_of_read {w : Bytes} {m : MappingC} (hb : m.dataBytes = (Mapping.data (Mapping.readMapping w)).getD [])
    (hl : m.values.length = ((Mapping.readMapping w).vals.getD []).length) :
    m.metaWire = if ((Mapping.readMapping w).vals.getD []).length = 0 then [0, 0]
             else (Mapping.data (Mapping.readMapping w)).getD [] := by
  rw [metaWire_eq, optionsBytes, hb, hl]
  simp only [gt_iff_lt, Nat.pos_iff_ne_zero, ite_not]

theorem metaFatalMappingErrorC_map (errs : List Mapping.E) :
    (metaFatalMappingErrorC (errs.map .m)).isNone = errs.all (· == .beyond) := by
  induction errs with
  | nil => rfl
  | cons e t ih =>
    simp only [List.map_cons, metaFatalMappingErrorC, isBeyond_m, List.all_cons]
    cases (e == Mapping.E.beyond) <;> simp [ih]

/-- `ReadMapping` + `fatalMappingError`, as both `parseOptionsMapping` and `parseEntryProperties` use them -/
theorem metaReadMapping_fatal (s : Sl) :
    ∃ m rem errs, readMappingS s = .ok (m, rem, errs) ∧
      ((∃ e, metaFatalMappingErrorC errs = some e) ∧ readOptions s.data true = none ∨
       metaFatalMappingErrorC errs = none ∧ readOptions s.data true = some (m.metaWire, rem.data)) := by
  obtain ⟨m, rem, h, hb, hl, h3⟩ := readMappingS_stream s
  refine ⟨m, rem, _, h, ?_⟩
  have hf := metaFatalMappingErrorC_map (Mapping.readMapping s.data).errs
  simp only [readOptions, Mapping.accepted, ← hf, metaWire_of_read hb hl, h3]
  cases metaFatalMappingErrorC _ <;> simp

theorem metaParseHeaderFieldsC_eq (mls : MLS) (s : Sl) (h : 8 ≤ s.len) :
    metaParseHeaderFieldsC mls s = .ok
      ({ mls with published := beVal (s.data.take 4), expires := beVal ((s.data.drop 4).take 2),
                  flags := beVal ((s.data.drop 6).take 2) }, s.drop 8) := by
  unfold metaParseHeaderFieldsC
  simp only [go, Nat.le_min, le_len h, le_len_sub h]

theorem entryTypeOk_eq {d : Bytes} (h : 32 < d.length) : entryTypeOk d = metaValidateEntryTypeC (d.getD 32 0) := by
  simp [entryTypeOk, take_one_drop (a := 0) h, metaValidateEntryTypeC]

/-- the entry `parseEntryFixedFields` + `parseEntryProperties` build from input `d` and the stored mapping -/
def metaEntryOf (d : Bytes) (m : MappingC) : MetaEntry :=
  { hash := d.take 32, leaseType := d.getD 32 0, expires := beVal ((d.drop 33).take 4), cost := d.getD 37 0,
    properties := m }

theorem metaEntryOf_bytes (d : Bytes) (m : MappingC) (h : 38 ≤ d.length) :
    (metaEntryOf d m).bytes = d.take 38 ++ m.metaWire := by
  simp only [MetaEntry.bytes, metaEntryOf]
  rw [beEnc_beVal_take d 33 4 (le_len h (by decide)), ← take_one_drop (n := 32) (le_len h (by decide)),
    ← take_one_drop (n := 37) (le_len h (by decide)), ← List.take_add, ← List.take_add, ← List.take_add]

theorem metaParseEntryFixedFieldsC_eq (e : MetaEntry) (s : Sl) (he : e.hash.length = 32) (h : 38 ≤ s.len) :
    metaParseEntryFixedFieldsC e s = .ok
      ({ e with hash := s.data.take 32, leaseType := s.data.getD 32 0, expires := beVal ((s.data.drop 33).take 4),
                cost := s.data.getD 37 0 }, s.drop 38) := by
  unfold metaParseEntryFixedFieldsC
  simp only [go, he, Nat.le_min, le_len h, le_len_sub h, lt_len_sub h]

/-- one loop body (`parseSingleEntry`) against one round of the pure `readEntries`.  The right side stops at the
    indexed store `mls.entries[entryIndex] = entry`, the only step of the body that can panic; 40 = 32 + 1 + 4 + 1
    fixed bytes and the two size bytes of the properties mapping -/
theorem metaParseSingleEntryC_cases (mls : MLS) (i : Int) (s : Sl) :
    (metaParseSingleEntryC mls i s = .ok none ∧ ∀ n acc, readEntries (n + 1) s.data acc = none) ∨
    ∃ m rem, rem.len + 40 ≤ s.len ∧
      (∀ n acc, readEntries (n + 1) s.data acc = readEntries n rem.data (acc ++ (metaEntryOf s.data m).bytes)) ∧
      metaParseSingleEntryC mls i s =
        setAt mls.entries i (metaEntryOf s.data m) >>= fun es => .ok (some ({ mls with entries := es }, rem)) := by
  unfold metaParseSingleEntryC
  simp only [readEntries_succ, Sl.data_length]
  by_cases h40 : s.len < 40
  · simp only [go, h40, implies_true]
  have hs : 40 ≤ s.len := Nat.le_of_not_lt h40
  have hd : 40 ≤ s.data.length := s.data_length ▸ hs
  rw [entryTypeOk_eq (le_len hd (by decide))]
  simp only [go, h40, metaParseEntryFixedFieldsC_eq {} s rfl (le_len hs (by decide))]
  cases metaValidateEntryTypeC (s.data.getD 32 0)
  · simp only [go, implies_true]
  obtain ⟨m, rem, errs, h, ⟨⟨e, hf⟩, hp⟩ | ⟨hf, hp⟩⟩ := metaReadMapping_fatal (s.drop 38)
  · simp only [go] at hp
    simp only [go, metaParseEntryPropertiesC, h, hf, hp, Option.bind_none, implies_true]
  · have hle := readOptions_rem_le hp
    simp only [go] at hp hle
    refine .inr ⟨m, rem, by omega, ?_⟩
    simp only [go, metaParseEntryPropertiesC, h, hf, hp, Option.bind_some,
      metaEntryOf_bytes s.data m (le_len hd (by decide)), List.append_assoc, implies_true]
    rfl

/-- what the loop has done when it succeeds from index `i` with `fuel` rounds to go; for any accumulator, so that the
    induction hypothesis applies to the next round.  A definition, so that `simp` leaves this arm of the `match` in
    `metaParseEntriesLoopC_spec` alone while it evaluates the loop body -/
def MetaLoopRead (fuel i : Nat) (mls : MLS) (s : Sl) (l : MLS) (rem : Sl) (c : Nat) : Prop :=
  c = fuel ∧ rem.len + 40 * fuel ≤ s.len ∧
    ∃ es : List MetaEntry, es.length = fuel ∧ l = { mls with entries := mls.entries.take i ++ es } ∧
      ∀ acc, readEntries fuel s.data acc = some (acc ++ es.flatMap MetaEntry.bytes, rem.data)

theorem metaParseEntriesLoopC_spec (n : Nat) : ∀ (fuel i : Nat) (mls : MLS) (s : Sl),
    i + fuel = n → mls.entries.length = n →
    ∃ r, metaParseEntriesLoopC fuel (i : Int) (n : Int) mls s = .ok r ∧
      match r with
      | none => ∀ acc, readEntries fuel s.data acc = none
      | some (l, rem, c) => MetaLoopRead fuel i mls s l rem c := by
  intro fuel
  induction fuel with
  | zero =>
    intro i mls s hi hn
    have hle : mls.entries.length ≤ i := Nat.le_of_eq (hn.trans hi.symm)
    exact ⟨_, rfl, rfl, Nat.le_refl _, [], rfl, by rw [List.take_of_length_le hle, List.append_nil],
      by simp [readEntries]⟩
  | succ fuel ih =>
    intro i mls s hi hn
    have hlt : i < n := hi ▸ Nat.lt_add_of_pos_right (Nat.succ_pos fuel)
    unfold metaParseEntriesLoopC
    simp only [go, hlt]
    obtain ⟨hc, hp⟩ | ⟨m, rem, hle, hp, hc⟩ := metaParseSingleEntryC_cases mls i s <;>
      simp only [go, hc, hp, implies_true]
    simp only [go, setAt_eq (hn ▸ hlt)]
    refine bind_spec (ih (i + 1) _ rem ((Nat.add_right_comm i 1 fuel).trans hi)
      (by rw [List.length_set]; exact hn)) ?_
    rintro (_ | ⟨l, rem2, c⟩) hm <;> simp only [] at hm
    · simp only [go, hm, implies_true]
    · obtain ⟨rfl, hcons, es, hes, rfl, hrk⟩ := hm
      simp only [go]
      exact ⟨rfl, by rw [Nat.mul_succ, ← Nat.add_assoc]; exact Nat.le_trans (Nat.add_le_add_right hcons 40) hle,
        metaEntryOf s.data m :: es, by simp [hes],
        by rw [take_set_succ_append (hn ▸ hlt)], by simp [hp, hrk]⟩

/-- the lines of the pure `readMeta` that read the entry count and the entries -/
def metaEntriesPure (d : Bytes) : Option (Bytes × Bytes) :=
  match d with
  | [] => none
  | ne :: r => if ne.toNat < 1 ∨ ne.toNat > 16 then none else readEntries ne.toNat r []

/-- what `parseEntries` has stored when it succeeds on `s` (a definition for the same reason as `MetaLoopRead`) -/
def MetaEntriesRead (mls : MLS) (s : Sl) (l : MLS) (rem : Sl) : Prop :=
  ∃ (ne : UInt8) (es : List MetaEntry), es.length = ne.toNat ∧ 1 ≤ ne.toNat ∧ ne.toNat ≤ 16 ∧
    l = { mls with numEntries := ne, entries := es } ∧ rem.len + 1 + 40 * es.length ≤ s.len ∧
    s.data.head? = some ne ∧ metaEntriesPure s.data = some (es.flatMap MetaEntry.bytes, rem.data)

theorem metaParseEntriesC_spec (mls : MLS) (s : Sl) :
    ∃ r, metaParseEntriesC mls s = .ok r ∧
      match r with
      | none => metaEntriesPure s.data = none
      | some (l, rem) => MetaEntriesRead mls s l rem := by
  unfold metaParseEntriesC metaEntriesPure
  cases hd : s.data with
  | nil => simp only [go, Sl.len_of_data_nil hd]
  | cons ne t =>
    obtain ⟨hl, h0, h1, ht⟩ := head_drop hd
    simp only [go, Nat.not_lt_of_le (hl ▸ Nat.le_add_left 1 _), h0, h1]
    by_cases hn : ne.toNat < 1 ∨ 16 < ne.toNat
    · simp only [go, hn]
    simp only [go, hn]
    refine bind_spec (metaParseEntriesLoopC_spec ne.toNat ne.toNat 0 _ (s.drop 1) (Nat.zero_add _)
      (List.length_replicate ..)) ?_
    rintro (_ | ⟨l, rem, c⟩) hm <;> simp only [] at hm
    · rw [ht] at hm
      simp only [go, hm]
    obtain ⟨rfl, hcons, es, hes, rfl, hrk⟩ := hm
    rw [ht] at hrk
    simp only [go]
    refine ⟨ne, es, hes, Nat.le_of_not_lt (mt .inl hn), Nat.le_of_not_lt (mt .inr hn), rfl, ?_, hd ▸ rfl,
      by simp only [metaEntriesPure, hd, go, hn, hrk, List.nil_append]⟩
    rw [Sl.drop_len] at hcons
    omega

/-- projection of a parsed MetaLeaseSet on what the pure model returns: `Bytes()` (`none` = error) and the
    remainder -/
def vMeta (r : Option (MLS × Sl)) : Option (Option Bytes × Bytes) := r.map fun p => (p.1.bytes, p.2.data)

end I2P.Checked
