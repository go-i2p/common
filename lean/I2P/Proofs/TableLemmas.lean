import I2P.Kac
import I2P.Spec.Structs
/-! The key types the parser can construct (`Kac.sigConstructible`, `Kac.cryptoConstructible`) and their sizes in the
    tables of `I2P/Tables.lean` (the tables row by row: `Spec.sig_table`, `Spec.crypto_table`). -/

theorem I2P.Spec.sigLen_big {t : Nat} (h : 11 < t) : sigLen t = 0 := by
  have := sig_table t; omega

namespace I2P.Kac
open I2P.Spec

theorem sigConstructible_iff (s : Nat) :
    sigConstructible s = true ↔ s = 0 ∨ s = 1 ∨ s = 2 ∨ s = 7 ∨ s = 8 ∨ s = 11 := by
  refine ⟨fun h => ?_, by rintro (rfl | rfl | rfl | rfl | rfl | rfl) <;> rfl⟩
  revert h
  fun_cases sigConstructible s
  case case7 => exact fun h => nomatch h
  all_goals exact fun _ => by simp only [true_or, or_true]

theorem cryptoConstructible_iff (c : Nat) :
    cryptoConstructible c = true ↔ c = 0 ∨ c = 4 ∨ c = 5 ∨ c = 6 ∨ c = 7 := by
  refine ⟨fun h => ?_, by rintro (rfl | rfl | rfl | rfl | rfl) <;> rfl⟩
  revert h
  fun_cases cryptoConstructible c
  case case6 => exact fun h => nomatch h
  all_goals exact fun _ => by simp only [true_or, or_true]

theorem sigConstructible_iff_size (s : Nat) :
    sigConstructible s = true ↔ 0 < sigPubSize s ∧ sigPubSize s ≤ 128 := by
  refine ⟨fun h => ?_, fun hp => ?_⟩
  · rcases (sigConstructible_iff s).1 h with rfl | rfl | rfl | rfl | rfl | rfl <;> decide
  · revert hp
    unfold sigPubSize
    fun_cases sigInfo s
    case case11 => exact fun h => absurd h.1 (Nat.lt_irrefl 0)
    all_goals decide

theorem sigPubSize_of_constructible {s : Nat} (h : sigConstructible s = true) :
    0 < sigPubSize s ∧ sigPubSize s ≤ 128 := (sigConstructible_iff_size s).1 h

theorem sigLen_of_constructible {s : Nat} (h : sigConstructible s = true) : sigLen s ≠ 0 :=
  sigLen_ne_of_pub s (Nat.ne_of_gt (sigPubSize_of_constructible h).1)

theorem cryptoSize_of_constructible {c : Nat} (h : cryptoConstructible c = true) :
    cryptoSize c = 256 ∨ cryptoSize c = 32 := by
  rcases (cryptoConstructible_iff c).1 h with rfl | rfl | rfl | rfl | rfl <;> decide

end I2P.Kac

theorem I2P.Spec.destAllowed_ne8 {s c : Nat} (h : destAllowed s c = true) : s ≠ 8 := by
  rintro rfl
  cases h
