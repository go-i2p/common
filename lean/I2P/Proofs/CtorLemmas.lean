import I2P.Ctor
/-! When each of the two `Outcome`-valued constructors of `I2P/Ctor.lean` succeeds, and that neither panics.
    Both are chains `if c₁ then .err else if c₂ then .err else … .ok`; `err_else_ok` and `err_else_panic` peel one
    link, so a chain of `n` checks is read off in `n` rewrites instead of a `2^n`-way case split. -/

namespace I2P.Ctor

theorem err_else_ok {c : Prop} [Decidable c] {x : Outcome} :
    (if c then Outcome.err else x) = .ok ↔ ¬ c ∧ x = .ok := by
  by_cases h : c <;> simp [h]

theorem err_else_panic {c : Prop} [Decidable c] {x : Outcome} :
    (if c then Outcome.err else x) = .panic ↔ ¬ c ∧ x = .panic := by
  by_cases h : c <;> simp [h]

theorem Outcome.eq_err {x : Outcome} (hok : x ≠ .ok) (hp : x ≠ .panic) : x = .err := by
  cases x <;> simp_all

theorem riCtor_ok_iff (a : RiArgs) : riCtor a = .ok ↔
    a.identity ≠ none ∧ a.someAddressNil = false ∧ a.publishedZero = false ∧ fits1 a.nAddresses = true ∧
    mapCtorAccepts a.options = true ∧ a.privKeyNil = false ∧ a.sigType = 7 ∧ a.privKeyEd25519 = true ∧
    ridValidates a.identity = true := by
  simp only [riCtor, err_else_ok]; simp [and_assoc]

theorem riCtor_ne_panic (a : RiArgs) : riCtor a ≠ .panic := by
  simp only [riCtor, ne_eq, err_else_panic]; simp

theorem lsCtor_ok_iff (a : LsArgs) : lsCtor a = .ok ↔
    a.privKeyNil = false ∧ destValidates a.dest = true ∧ a.encKeyLen = some 256 ∧ a.elgInRange = true ∧
    a.nLeases ≤ 16 ∧ a.signingKeyLen = some (lsSigKeySize a) ∧ (a.keyCert = false → a.revKeyInRange = true) ∧
    a.producedSigLen = lsSigLen a ∧ lsSigLen a ≠ 0 := by
  unfold lsCtor
  split
  · simp_all
  · simp_all
  · next e s he hs => simp only [err_else_ok, he, hs]; simp

theorem lsCtor_ne_panic (a : LsArgs) : lsCtor a ≠ .panic := by
  unfold lsCtor
  split
  · nofun
  · nofun
  · simp only [ne_eq, err_else_panic]; simp

end I2P.Ctor
