import I2P.Proofs.TableLemmas
import I2P.Proofs.Framed
/-! The identity-layer readers of `I2P/Kac.lean`.  Each has its characterisation (`readCert_some`, `newKeyCert_some`,
    `readKac_iff`: what `readKac` accepts is `Parsed`); the readers that restrict `readKac` inherit its framing
    through `IsSub`. -/

namespace I2P.Kac
open I2P.Spec

theorem kac_filter_some {o : Option (KeysAndCert × Bytes)} {p : KeysAndCert → Bool} {k : KeysAndCert} {r : Bytes} :
    (match o with | none => none | some (k, rem) => if p k then some (k, rem) else none) = some (k, r) ↔
      o = some (k, r) ∧ p k = true := by
  refine kac_match_some.trans ?_
  simp only [Option.ite_some_none_eq_some, Prod.mk.injEq]
  exact ⟨fun ⟨_, _, h, hp, rfl, rfl⟩ => ⟨h, hp⟩, fun ⟨h, hp⟩ => ⟨_, _, h, hp, rfl, rfl⟩⟩

/-- `no_prefix_of_append'` for an append lemma that produces a new value `c'`; what it says of `c'` (`T`) plays no
    part -/
theorem no_prefix_of_typed_append {α} (R : Bytes → Option (α × Bytes)) {T : α → α → Prop}
    (happ : ∀ {w c r}, R w = some (c, r) → ∀ x, ∃ c', R (w ++ x) = some (c', r ++ x) ∧ T c' c)
    {w : Bytes} {c : α} (h : R w = some (c, [])) (k : Nat) (hk : k < w.length) : R (w.take k) = none :=
  no_prefix_of_append' R (·.2) (fun h x => (happ h x).elim fun _ h' => ⟨_, h'.1, rfl⟩) h rfl hk

theorem readCert_eq (w : Bytes) :
    readCert w =
      if w.length < 3 then none else
      if beVal ((w.drop 1).take 2) > w.length - 3 then none else
      some ({ kind := w.take 1, len := (w.drop 1).take 2, payload := w.drop 3 },
            w.drop (3 + beVal ((w.drop 1).take 2))) := rfl

theorem readCert_some {w : Bytes} {c : Cert} {r : Bytes} :
    readCert w = some (c, r) ↔
      3 ≤ w.length ∧ c = { kind := w.take 1, len := (w.drop 1).take 2, payload := w.drop 3 } ∧
      beVal ((w.drop 1).take 2) ≤ w.length - 3 ∧ r = w.drop (3 + beVal ((w.drop 1).take 2)) := by
  rw [readCert_eq]
  simp only [↓Option.ite_none_left_eq_some, Option.some.injEq, Prod.mk.injEq, Nat.not_lt]
  exact ⟨fun ⟨h1, h2, hc, hr⟩ => ⟨h1, hc.symm, h2, hr.symm⟩, fun ⟨h1, hc, h2, hr⟩ => ⟨h1, h2, hc.symm, hr.symm⟩⟩

theorem readCert_consumed {w : Bytes} {c : Cert} {r : Bytes} (h : readCert w = some (c, r)) :
    c.bytes ++ r = w := by
  obtain ⟨_, rfl, _, rfl⟩ := readCert_some.mp h
  simp only [Cert.bytes, Cert.data, Cert.declared, List.append_assoc]
  rw [← List.drop_drop, List.take_append_drop]
  exact cut3 w 1 2

theorem readCert_lengths {w : Bytes} {c : Cert} {r : Bytes} (h : readCert w = some (c, r)) :
    c.kind.length = 1 ∧ c.len.length = 2 := by
  obtain ⟨h3, rfl, -, -⟩ := readCert_some.mp h
  simp only [List.length_take, List.length_drop]
  omega

theorem readCert_kind {w : Bytes} {c : Cert} {r : Bytes} (h : readCert w = some (c, r)) : c.kind = w.take 1 := by
  rw [(readCert_some.mp h).2.1]

theorem kind_five {c : Cert} (hk : c.kind.length = 1) : c.type = 5 ↔ c.kind = [5] := by
  obtain ⟨b, hb⟩ := List.length_eq_one_iff.mp hk
  rw [Cert.type, hb, beVal_singleton, List.cons.injEq, and_iff_left rfl]
  exact UInt8.toNat_inj (b := 5)

theorem readCert_append {w : Bytes} {c : Cert} {r : Bytes} (h : readCert w = some (c, r)) (x : Bytes) :
    ∃ c', readCert (w ++ x) = some (c', r ++ x) ∧ c'.bytes = c.bytes ∧ c'.kind = c.kind ∧
      c'.len = c.len ∧ c'.data = c.data := by
  obtain ⟨h3, rfl, hd, rfl⟩ := readCert_some.mp h
  have hn : 3 + beVal ((w.drop 1).take 2) ≤ w.length := Nat.add_le_of_le_sub' h3 hd
  have hk : (w ++ x).take 1 = w.take 1 := List.take_append_of_le_length (Nat.le_trans (by decide) h3)
  have hl : ((w ++ x).drop 1).take 2 = (w.drop 1).take 2 := window_append_le x h3
  have hp : ((w ++ x).drop 3).take (beVal ((w.drop 1).take 2)) = (w.drop 3).take (beVal ((w.drop 1).take 2)) :=
    window_append_le x hn
  refine ⟨_, readCert_some.mpr ⟨by rw [List.length_append]; omega, rfl, ?_, ?_⟩, ?_⟩
  · rw [hl, List.length_append]; omega
  · rw [hl, List.drop_append_of_le_length hn]
  · simp only [Cert.bytes, Cert.data, Cert.declared, hk, hl, hp, and_self]

theorem readCert_mk (k l p x : Bytes) (hk : k.length = 1) (hl : l.length = 2) (hv : beVal l = p.length) :
    readCert (k ++ (l ++ p) ++ x) = some (⟨k, l, p ++ x⟩, x) ∧ Cert.data ⟨k, l, p ++ x⟩ = p ∧
      Cert.bytes ⟨k, l, p ++ x⟩ = k ++ (l ++ p) := by
  obtain ⟨e1, e2, (e3 : (k ++ (l ++ (p ++ x))).drop 3 = p ++ x)⟩ := cut3_append (c := p ++ x) hk hl
  have hw : k ++ (l ++ p) ++ x = k ++ (l ++ (p ++ x)) := by rw [List.append_assoc, List.append_assoc]
  have hlen : (k ++ (l ++ p)).length = 3 + p.length := by
    rw [List.length_append, List.length_append, hk, hl, ← Nat.add_assoc]
  -- `Data()` is what the length field announces, whatever follows in the buffer
  have hd : Cert.data ⟨k, l, p ++ x⟩ = p := by rw [Cert.data, Cert.declared, hv, List.take_left]
  refine ⟨?_, hd, by rw [Cert.bytes, hd, List.append_assoc]⟩
  rw [readCert_some, List.length_append, hlen, hw, e1, e2, e3, hv, ← hw, List.drop_left' hlen, Nat.add_assoc,
    Nat.add_sub_cancel_left]
  exact ⟨Nat.le_add_right .., rfl, Nat.le_add_right .., rfl⟩

theorem readCert_complete (t : UInt8) (p x : Bytes) (hp : p.length ≤ 65535) :
    ∃ c, readCert ([t] ++ beEnc 2 p.length ++ p ++ x) = some (c, x) ∧
      c.bytes = [t] ++ beEnc 2 p.length ++ p ∧ c.data = p ∧ c.type = t.toNat := by
  obtain ⟨hr, hd, hb⟩ := readCert_mk [t] _ p x rfl (beEnc_length _ _) (beVal_beEnc 2 _ (Nat.lt_succ_of_le hp))
  exact ⟨_, hr, hb, hd, beVal_singleton t⟩

theorem newCertWithType_five {p : Bytes} {cert : Cert} (h : newCertWithType 5 p = some cert) :
    p.length ≤ 65535 ∧ cert.bytes = [5] ++ (beEnc 2 p.length ++ p) := by
  simp only [newCertWithType, ↓Option.ite_none_left_eq_some, Option.some.injEq] at h
  obtain ⟨-, hl, -, -, -, rfl⟩ := h
  refine ⟨Nat.le_of_not_lt hl, ?_⟩
  show [UInt8.ofNat 5] ++ beEnc 2 p.length ++ p.take (beVal (beEnc 2 p.length)) = _
  rw [beVal_beEnc 2 _ (by omega), List.take_length, List.append_assoc]
  rfl

/-- the key certificate `keyCertFromCert` makes of a KEY certificate: the type codes are the first four payload bytes -/
def mkKeyCert (c : Cert) : KeyCert :=
  { cert := c, spk := beVal (c.data.take 2), cpk := beVal ((c.data.drop 2).take 2) }

theorem keyCertFromCert_eq (c : Cert) :
    keyCertFromCert c = if c.type ≠ 5 then none else if c.data.length < 4 then none else some (mkKeyCert c) := rfl

theorem keyCertFromCert_some {c : Cert} {kc : KeyCert} :
    keyCertFromCert c = some kc ↔ c.type = 5 ∧ 4 ≤ c.data.length ∧ kc = mkKeyCert c := by
  rw [keyCertFromCert_eq]
  simp only [↓Option.ite_none_left_eq_some, Option.some.injEq, Decidable.not_not, Nat.not_lt, eq_comm]

theorem newKeyCert_some {w : Bytes} {kc : KeyCert} {r : Bytes} :
    newKeyCert w = some (kc, r) ↔
      ∃ c, readCert w = some (c, r) ∧ c.type = 5 ∧ 4 ≤ c.data.length ∧ kc = mkKeyCert c := by
  unfold newKeyCert
  refine cert_match_some.trans ?_
  simp only [↓Option.ite_none_left_eq_some, Option.some.injEq, Prod.mk.injEq, Decidable.not_not, Nat.not_lt]
  exact ⟨fun ⟨c, _, hc, h5, h4, hk, e⟩ => ⟨c, e ▸ hc, h5, h4, hk.symm⟩,
    fun ⟨c, hc, h5, h4, hk⟩ => ⟨c, r, hc, h5, h4, hk.symm, rfl⟩⟩

theorem newKeyCert_append {w : Bytes} {kc : KeyCert} {r : Bytes} (h : newKeyCert w = some (kc, r)) (x : Bytes) :
    ∃ kc', newKeyCert (w ++ x) = some (kc', r ++ x) ∧ kc'.cert.bytes = kc.cert.bytes ∧
      kc'.cert.kind = kc.cert.kind ∧ kc'.cert.len = kc.cert.len ∧ kc'.cert.data = kc.cert.data ∧
      kc'.spk = kc.spk ∧ kc'.cpk = kc.cpk := by
  obtain ⟨c, hc, h1, h2, rfl⟩ := newKeyCert_some.mp h
  obtain ⟨c', hc', hb, hk, hl, hd⟩ := readCert_append hc x
  refine ⟨mkKeyCert c', newKeyCert_some.mpr ⟨c', hc', ?_, ?_, rfl⟩, hb, hk, hl, hd, ?_, ?_⟩
  · rw [Cert.type, hk]; exact h1
  · rw [hd]; exact h2
  · rw [mkKeyCert, hd]; rfl
  · rw [mkKeyCert, hd]; rfl

theorem newKeyCert_head {v : Bytes} {kc : KeyCert} {r : Bytes} (h : newKeyCert v = some (kc, r)) :
    ∃ t, v = 5 :: t := by
  obtain ⟨c, hc, h5, -, -⟩ := newKeyCert_some.mp h
  exact cons_of_take_one ((readCert_kind hc).symm.trans ((kind_five (readCert_lengths hc).1).mp h5))

/-- the three size tests are implied by the two `Constructible` tests -/
theorem finishKac_eq (w : Bytes) (kc : KeyCert) (rem : Bytes) :
    finishKac w kc rem =
      if cryptoConstructible kc.cpk = true ∧ sigConstructible kc.spk = true then
        some ({ kc := kc, pub := w.take (cryptoSize kc.cpk),
                padding := extractPadding w (cryptoSize kc.cpk) (sigPubSize kc.spk),
                sig := (w.take 384).drop (384 - sigPubSize kc.spk) }, rem)
      else none := by
  unfold finishKac
  cases hc : cryptoConstructible kc.cpk
  · simp
  · cases hs : sigConstructible kc.spk
    · simp
    · have h1 := cryptoSize_of_constructible hc
      have h2 := sigPubSize_of_constructible hs
      have a1 : cryptoSize kc.cpk ≠ 0 := by omega
      simp [a1, Nat.ne_of_gt h2.1, Nat.not_lt.mpr h2.2]

theorem extractPadding_eq (w : Bytes) (cs ss : Nat) (hw : 384 ≤ w.length) (hc : cs ≤ 256) (hs : ss ≤ 128) :
    extractPadding w cs ss = (w.take (384 - ss)).drop cs := by
  unfold extractPadding
  by_cases h : 384 ≤ cs + ss
  · rw [if_pos h, List.drop_of_length_le (Nat.le_trans (List.length_take_le ..) (Nat.sub_le_of_le_add h))]
  · rw [if_neg h]
    have e := congrArg (List.drop cs) (take_append_window w (show 256 ≤ 384 - ss by omega))
    rwa [List.drop_append_of_le_length (by rw [List.length_take_of_le (by omega)]; exact hc)] at e

theorem finishKac_some {w : Bytes} {kc : KeyCert} {rem r : Bytes} {k : KeysAndCert} (hw : 384 ≤ w.length) :
    finishKac w kc rem = some (k, r) ↔
      cryptoConstructible kc.cpk = true ∧ sigConstructible kc.spk = true ∧
      k = { kc := kc, pub := w.take (cryptoSize kc.cpk),
            padding := (w.take (384 - sigPubSize kc.spk)).drop (cryptoSize kc.cpk),
            sig := (w.take 384).drop (384 - sigPubSize kc.spk) } ∧ r = rem := by
  rw [finishKac_eq, Option.ite_some_none_eq_some, Prod.mk.injEq, and_assoc]
  refine and_congr_right fun hc => and_congr_right fun hs => ?_
  rw [extractPadding_eq w _ _ hw (cryptoSize_le _) (sigPubSize_of_constructible hs).2]
  exact and_congr eq_comm eq_comm

theorem readKac_short {w : Bytes} (h : w.length < 387) : readKac w = none := by
  unfold readKac; rw [if_pos h]

theorem readKac_key {w t : Bytes} (h : 387 ≤ w.length) (h5 : w.drop 384 = 5 :: t) :
    readKac w = (newKeyCert (w.drop 384)).bind (fun p => finishKac w p.1 p.2) := by
  unfold readKac
  rw [if_neg (by omega), h5]
  simp only []
  cases newKeyCert (5 :: t) with
  | none => rfl
  | some p => rfl

theorem readKac_null {w t : Bytes} (h : 387 ≤ w.length) (h0 : w.drop 384 = 0 :: t) :
    readKac w = (readCert (w.drop 384)).bind (fun p => finishKac w { cert := p.1, spk := 0, cpk := 0 } p.2) := by
  unfold readKac
  rw [if_neg (by omega), h0]
  simp only []
  cases readCert (0 :: t) with
  | none => rfl
  | some p => rfl

theorem readKac_other {w t : Bytes} {b : UInt8} (h0 : w.drop 384 = b :: t) (hb5 : b ≠ 5) (hb0 : b ≠ 0) :
    readKac w = none := by
  unfold readKac
  split
  · rfl
  · rw [h0]
    split
    next h => exact absurd (List.cons.inj h).1 hb5
    next h => exact absurd (List.cons.inj h).1 hb0
    · rfl

/-- the copy primitive of `buildKeysAndCertBlock` -/
def put (b : Bytes) (off : Nat) (src : Bytes) : Bytes := b.take off ++ src ++ b.drop (off + src.length)

/-- `KeysAndCert.block` over an arbitrary zero block `Z`, crypto key size `cs`, the two gaps `pubPad`, `sigPad` the
    Go code computes from the key sizes, and fields `P`, `D`, `S` -/
def blockOf (Z : Bytes) (cs pubPad sigPad : Nat) (P D S : Bytes) : Bytes :=
  let b1 := put Z 0 (P.take 384)
  let b2 := if pubPad > 0 ∧ D.length ≥ pubPad then put b1 cs (D.take pubPad) else b1
  let b3 := if sigPad > 0 ∧ D.length ≥ pubPad + sigPad then put b2 256 ((D.drop pubPad).take sigPad) else b2
  let b4 := if S.length ≤ 384 then put b3 (384 - S.length) S else b3
  b4.take 384

theorem block_eq (k : KeysAndCert) :
    k.block = blockOf (List.replicate 384 0) (cryptoSize k.kc.cpk) (256 - cryptoSize k.kc.cpk)
      (128 - sigPubSize k.kc.spk) k.pub k.padding k.sig := rfl

theorem put_nil (b : Bytes) (off : Nat) : put b off [] = b := by
  rw [put, List.append_nil, List.length_nil, Nat.add_zero, List.take_append_drop]

theorem put_zero (Z src : Bytes) : put Z 0 src = src ++ Z.drop src.length := by
  rw [put, List.take_zero, List.nil_append, Nat.zero_add]

theorem put_append {A : Bytes} {a : Nat} (hA : A.length = a) (Z src : Bytes) :
    put (A ++ Z.drop a) a src = A ++ src ++ Z.drop (a + src.length) := by
  rw [put, List.take_left' hA, ← List.drop_drop, List.drop_left' hA, List.drop_drop]

theorem put_take_guard {n : Nat} {c : Prop} [Decidable c] (hc : c) (b : Bytes) (off : Nat) (src : Bytes) :
    (if n > 0 ∧ c then put b off (src.take n) else b) = put b off (src.take n) := by
  cases n with
  | zero => rw [if_neg (fun h => Nat.lt_irrefl 0 h.1), List.take_zero, put_nil]
  | succ n => rw [if_pos ⟨Nat.succ_pos n, hc⟩]

/-- the four copies of `buildKeysAndCertBlock`, each starting where the previous one ended, the last one
    ending at or beyond the end of the block -/
theorem put4 {P D1 D2 : Bytes} {a b c : Nat} (hP : P.length = a) (h2 : a + D1.length = b) (h3 : b + D2.length = c)
    {Z S : Bytes} (hZ : Z.length ≤ c + S.length) :
    put (put (put (put Z 0 P) a D1) b D2) c S = P ++ D1 ++ D2 ++ S := by
  have hb : (P ++ D1).length = b := by rw [List.length_append, hP, h2]
  have hc : (P ++ D1 ++ D2).length = c := by rw [List.length_append, hb, h3]
  rw [put_zero, hP, put_append hP, h2, put_append hb, h3, put_append hc, List.drop_eq_nil_of_le hZ, List.append_nil]

/-- when the padding fills the two gaps exactly, the four copies tile the block -/
theorem blockOf_eq {Z P D S : Bytes} {cs pubPad sigPad : Nat} (hZ : Z.length = 384) (hP : P.length = cs)
    (hc : cs + pubPad = 256) (hD : D.length = pubPad + sigPad) (hS : 256 + sigPad + S.length = 384) :
    blockOf Z cs pubPad sigPad P D S = P ++ D ++ S := by
  have ⟨hP4, hS4, hs, hT⟩ : P.length ≤ 384 ∧ S.length ≤ 384 ∧ 256 + sigPad = 384 - S.length ∧
      P.length + D.length + S.length ≤ 384 := by omega
  have hD1 : pubPad ≤ D.length := hD ▸ Nat.le_add_right ..
  have hD2 : (D.drop pubPad).length = sigPad := by rw [List.length_drop, hD, Nat.add_sub_cancel_left]
  simp only [blockOf]
  rw [put_take_guard hD1, put_take_guard (Nat.le_of_eq hD.symm), if_pos hS4, List.take_of_length_le hP4,
    List.take_of_length_le (Nat.le_of_eq hD2),
    put4 hP (by rw [List.length_take_of_le hD1]; exact hc) (by rw [hD2]; exact hs)
      (by rw [Nat.sub_add_cancel hS4]; exact Nat.le_of_eq hZ),
    List.append_assoc P, List.take_append_drop,
    List.take_of_length_le (by simp only [List.length_append]; exact hT)]

theorem bytes_of_fields (k : KeysAndCert) (hc : cryptoSize k.kc.cpk ≤ 256) (hs : sigPubSize k.kc.spk ≤ 128)
    (hP : k.pub.length = cryptoSize k.kc.cpk) (hS : k.sig.length = sigPubSize k.kc.spk)
    (hD : k.padding.length = 384 - cryptoSize k.kc.cpk - sigPubSize k.kc.spk) :
    k.bytes = some (k.pub ++ k.padding ++ k.sig ++ k.kc.cert.bytes) := by
  have hv : k.validate = true := by simp [KeysAndCert.validate, hP, hS]
  -- 384 = 256 + 128, and each subtraction stays within its summand
  have hD' : k.padding.length = 256 - cryptoSize k.kc.cpk + (128 - sigPubSize k.kc.spk) :=
    hD.trans (by rw [show 384 = 256 + 128 from rfl, Nat.sub_add_comm hc, Nat.add_sub_assoc hs])
  unfold KeysAndCert.bytes
  rw [if_pos hv, block_eq, blockOf_eq List.length_replicate hP (Nat.add_sub_cancel' hc) hD'
    (by rw [hS, Nat.add_assoc, Nat.sub_add_cancel hs])]

/-- the certificate step of `readKac` on the tail `v = w.drop 384`: either a KEY certificate that declares the two
    type codes, or a NULL certificate and both codes are 0 -/
structure KcParse (v : Bytes) (kc : KeyCert) (r : Bytes) : Prop where
  read : readCert v = some (kc.cert, r)
  types : (kc.cert.kind = [5] ∧ keyCertFromCert kc.cert = some kc) ∨ (kc.cert.kind = [0] ∧ kc.spk = 0 ∧ kc.cpk = 0)

theorem KcParse.of_key {v : Bytes} {kc : KeyCert} {r : Bytes} (h : newKeyCert v = some (kc, r)) : KcParse v kc r := by
  obtain ⟨c, hr, hk⟩ := newKeyCert_some.mp h
  obtain rfl := hk.2.2
  exact ⟨hr, .inl ⟨(kind_five (readCert_lengths hr).1).mp hk.1, keyCertFromCert_some.mpr hk⟩⟩

theorem KcParse.key {v : Bytes} {kc : KeyCert} {r : Bytes} (h : KcParse v kc r) (h5 : kc.cert.kind = [5]) :
    newKeyCert v = some (kc, r) := by
  rcases h.types with ⟨-, hk⟩ | ⟨h0, -, -⟩
  · exact newKeyCert_some.mpr ⟨_, h.read, keyCertFromCert_some.mp hk⟩
  · rw [h0] at h5; cases h5

theorem KcParse.append {v : Bytes} {kc : KeyCert} {r : Bytes} (h : KcParse v kc r) (x : Bytes) :
    ∃ kc', KcParse (v ++ x) kc' (r ++ x) ∧ kc'.cert.bytes = kc.cert.bytes ∧ kc'.spk = kc.spk ∧ kc'.cpk = kc.cpk := by
  rcases h.types with ⟨h5, hk⟩ | ⟨h0, hs, hc⟩
  · obtain ⟨kc', hn, hb, -, -, -, hs, hc⟩ := newKeyCert_append (h.key h5) x
    exact ⟨kc', .of_key hn, hb, hs, hc⟩
  · obtain ⟨c', hr', hb, hk', -⟩ := readCert_append h.read x
    exact ⟨⟨c', 0, 0⟩, ⟨hr', .inr ⟨hk'.trans h0, rfl, rfl⟩⟩, hb, hs.symm, hc.symm⟩

theorem cert_bytes_inj {c₁ c₂ : Cert} (hk₁ : c₁.kind.length = 1) (hk₂ : c₂.kind.length = 1)
    (hl₁ : c₁.len.length = 2) (hl₂ : c₂.len.length = 2) (h : c₁.bytes = c₂.bytes) :
    c₁.kind = c₂.kind ∧ c₁.len = c₂.len ∧ c₁.data = c₂.data := by
  unfold Cert.bytes at h
  rw [List.append_assoc, List.append_assoc] at h
  obtain ⟨h1, h2⟩ := List.append_inj h (hk₁.trans hk₂.symm)
  obtain ⟨h3, h4⟩ := List.append_inj h2 (hl₁.trans hl₂.symm)
  exact ⟨h1, h3, h4⟩

theorem KcParse.types_inj {v₁ v₂ r₁ r₂ : Bytes} {kc₁ kc₂ : KeyCert} (h₁ : KcParse v₁ kc₁ r₁) (h₂ : KcParse v₂ kc₂ r₂)
    (h : kc₁.cert.bytes = kc₂.cert.bytes) : kc₁.spk = kc₂.spk ∧ kc₁.cpk = kc₂.cpk := by
  obtain ⟨a1, a2⟩ := readCert_lengths h₁.read
  obtain ⟨b1, b2⟩ := readCert_lengths h₂.read
  obtain ⟨hk, -, hd⟩ := cert_bytes_inj a1 b1 a2 b2 h
  rcases h₁.types with ⟨k1, e1⟩ | ⟨k1, s1, c1⟩ <;> rcases h₂.types with ⟨k2, e2⟩ | ⟨k2, s2, c2⟩
  · -- both pairs of codes are read from the same `Data()`
    have e1 := (keyCertFromCert_some.mp e1).2.2
    have e2 := (keyCertFromCert_some.mp e2).2.2
    rw [e1, e2, mkKeyCert, mkKeyCert, hd]
    exact ⟨rfl, rfl⟩
  · rw [k1, k2] at hk; cases hk
  · rw [k1, k2] at hk; cases hk
  · rw [s1, s2, c1, c2]; exact ⟨rfl, rfl⟩

/-- what `readKac` accepts (`readKac_iff`): the three fields are the windows of the 384-byte key block delimited by
    the two key sizes -/
structure Parsed (w : Bytes) (k : KeysAndCert) (r : Bytes) : Prop where
  len : 387 ≤ w.length
  cert : KcParse (w.drop 384) k.kc r
  crypto : cryptoConstructible k.kc.cpk = true
  signing : sigConstructible k.kc.spk = true
  pub : k.pub = w.take (cryptoSize k.kc.cpk)
  padding : k.padding = (w.take (384 - sigPubSize k.kc.spk)).drop (cryptoSize k.kc.cpk)
  sig : k.sig = (w.take 384).drop (384 - sigPubSize k.kc.spk)

theorem readKac_iff {w : Bytes} {k : KeysAndCert} {r : Bytes} : readKac w = some (k, r) ↔ Parsed w k r := by
  constructor
  · intro h
    unfold readKac at h
    obtain ⟨hlen, h⟩ := Option.ite_none_left_eq_some.mp h
    have hlen := Nat.le_of_not_lt hlen
    have h384 : 384 ≤ w.length := Nat.le_trans (by decide) hlen
    split at h
    next t hv =>
      obtain ⟨kc, rem, hn, hf⟩ := keyCert_match_some.mp h
      obtain ⟨hc, hs, rfl, rfl⟩ := (finishKac_some h384).mp hf
      exact ⟨hlen, .of_key hn, hc, hs, rfl, rfl, rfl⟩
    next t hv =>
      obtain ⟨c, rem, hr, hf⟩ := cert_match_some.mp h
      obtain ⟨hc, hs, rfl, rfl⟩ := (finishKac_some h384).mp hf
      exact ⟨hlen, ⟨hr, .inr ⟨(readCert_kind hr).trans (congrArg (List.take 1) hv), rfl, rfl⟩⟩, hc, hs, rfl, rfl, rfl⟩
    next => cases h
  · intro a
    have hlen := a.len
    have hkind := readCert_kind a.cert.read
    have hf : finishKac w k.kc r = some (k, r) :=
      (finishKac_some (Nat.le_trans (by decide) hlen)).mpr
        ⟨a.crypto, a.signing, by rw [← a.pub, ← a.padding, ← a.sig], rfl⟩
    rcases a.cert.types with ⟨h5, -⟩ | ⟨h0, hs0, hc0⟩
    · obtain ⟨t, hv⟩ := cons_of_take_one (hkind.symm.trans h5)
      rw [readKac_key hlen hv, a.cert.key h5]
      exact hf
    · obtain ⟨t, hv⟩ := cons_of_take_one (hkind.symm.trans h0)
      rw [readKac_null hlen hv, a.cert.read]
      obtain ⟨⟨c, s, p⟩, _, _, _⟩ := k
      cases hs0
      cases hc0
      exact hf

namespace Parsed
variable {w : Bytes} {k : KeysAndCert} {r : Bytes}

theorem sizes (h : Parsed w k r) :
    0 < cryptoSize k.kc.cpk ∧ cryptoSize k.kc.cpk ≤ 256 ∧ 0 < sigPubSize k.kc.spk ∧ sigPubSize k.kc.spk ≤ 128 := by
  have := cryptoSize_of_constructible h.crypto
  exact ⟨by omega, cryptoSize_le _, sigPubSize_of_constructible h.signing⟩

theorem pub_length (h : Parsed w k r) : k.pub.length = cryptoSize k.kc.cpk := by
  have := h.sizes
  have := h.len
  rw [h.pub, List.length_take]
  omega

theorem sig_length (h : Parsed w k r) : k.sig.length = sigPubSize k.kc.spk := by
  have := h.sizes
  have := h.len
  rw [h.sig, List.length_drop, List.length_take_of_le (by omega), Nat.sub_sub_self (by omega)]

theorem padding_length (h : Parsed w k r) :
    k.padding.length = 384 - cryptoSize k.kc.cpk - sigPubSize k.kc.spk := by
  have := h.sizes
  have := h.len
  rw [h.padding, List.length_drop, List.length_take_of_le (by omega), Nat.sub_right_comm]

theorem block (h : Parsed w k r) : k.pub ++ k.padding ++ k.sig = w.take 384 := by
  have := h.sizes
  rw [h.pub, h.padding, h.sig, take_append_window w (by omega), take_append_window w (by omega)]

theorem bytes (h : Parsed w k r) : k.bytes = some (w.take 384 ++ k.kc.cert.bytes) := by
  rw [bytes_of_fields k h.sizes.2.1 h.sizes.2.2.2 h.pub_length h.sig_length h.padding_length, h.block]

theorem kind (h : Parsed w k r) : k.kc.cert.kind = (w.drop 384).take 1 := readCert_kind h.cert.read

theorem rem (h : Parsed w k r) : r = w.drop (387 + beVal ((w.drop 385).take 2)) := by
  rw [(readCert_some.mp h.cert.read).2.2.2]
  simp only [List.drop_drop, ← Nat.add_assoc]

/-- `determineSignatureType` / `parseRouterInfoSignature` look at the certificate kind and fall back to DSA-SHA1;
    that is the key certificate's signing type in both cases, a NULL certificate having `spk = 0` -/
theorem sigType (h : Parsed w k r) : (if (w.drop 384).take 1 == [5] then k.kc.spk else 0) = k.kc.spk := by
  rw [← h.kind]
  rcases h.cert.types with ⟨hk, _⟩ | ⟨hk, hs, _⟩
  · rw [hk]; rfl
  · rw [hk, hs]; rfl

/-- `parseRouterInfoSignature` reads the signing type of a KEY certificate from the first two bytes of its payload -/
theorem key_payload (h : Parsed w k r) (h5 : k.kc.cert.kind = [5]) :
    4 ≤ k.kc.cert.payload.length ∧ k.kc.spk = beVal (k.kc.cert.payload.take 2) := by
  rcases h.cert.types with ⟨-, hk⟩ | ⟨h0, -, -⟩
  · -- `Data()` is a prefix of the payload, at least 4 bytes long
    obtain ⟨-, h4, hmk⟩ := keyCertFromCert_some.mp hk
    have hs : k.kc.spk = beVal (k.kc.cert.data.take 2) := congrArg KeyCert.spk hmk
    rw [Cert.data, List.length_take, Nat.le_min] at h4
    rw [hs, Cert.data, List.take_take, Nat.min_eq_left (Nat.le_trans (by decide) h4.1)]
    exact ⟨h4.2, rfl⟩
  · rw [h0] at h5
    cases h5

/-- the fields are cut out of the first 384 bytes by the two type codes alone -/
theorem transfer (h : Parsed w k r) {w' r' : Bytes} {kc' : KeyCert} (hw : w'.take 384 = w.take 384)
    (hlen : 387 ≤ w'.length) (hp : KcParse (w'.drop 384) kc' r') (hs : kc'.spk = k.kc.spk)
    (hc : kc'.cpk = k.kc.cpk) : Parsed w' { k with kc := kc' } r' := by
  have := h.sizes
  exact ⟨hlen, hp, by rw [hc]; exact h.crypto, by rw [hs]; exact h.signing,
    by rw [hc, take_of_take_eq hw (by omega)]; exact h.pub,
    by rw [hs, hc, take_of_take_eq hw (by omega)]; exact h.padding,
    by rw [hs, hw]; exact h.sig⟩

end Parsed

theorem readKac_consumed {w : Bytes} {k : KeysAndCert} {r : Bytes} (h : readKac w = some (k, r)) :
    ∃ b, k.bytes = some b ∧ b ++ r = w := by
  have a := readKac_iff.mp h
  exact ⟨_, a.bytes, by rw [List.append_assoc, readCert_consumed a.cert.read, List.take_append_drop]⟩

theorem readKac_append {w : Bytes} {k : KeysAndCert} {r : Bytes} (h : readKac w = some (k, r)) (x : Bytes) :
    ∃ k', readKac (w ++ x) = some (k', r ++ x) ∧ k'.bytes = k.bytes ∧ k'.pub = k.pub ∧
      k'.padding = k.padding ∧ k'.sig = k.sig ∧ k'.kc.spk = k.kc.spk ∧ k'.kc.cpk = k.kc.cpk := by
  have a := readKac_iff.mp h
  have hlen := a.len
  obtain ⟨kc', hp', hb, hs, hc⟩ := a.cert.append x
  have hw : (w ++ x).take 384 = w.take 384 := List.take_append_of_le_length (by omega)
  have a' : Parsed (w ++ x) { k with kc := kc' } (r ++ x) :=
    a.transfer hw (by rw [List.length_append]; omega)
      (by rw [List.drop_append_of_le_length (by omega)]; exact hp') hs hc
  refine ⟨_, readKac_iff.mpr a', ?_, rfl, rfl, rfl, hs, hc⟩
  rw [a'.bytes, a.bytes, hw]
  exact congrArg _ (congrArg _ hb)

section Sub
variable {f : Bytes → Option (KeysAndCert × Bytes)} {Q : Bytes → KeysAndCert → Prop}

/-- `f` accepts exactly the `readKac` results that satisfy `Q`, and `Q` survives appended data -/
structure IsSub (f : Bytes → Option (KeysAndCert × Bytes)) (Q : Bytes → KeysAndCert → Prop) : Prop where
  iff : ∀ w k r, f w = some (k, r) ↔ readKac w = some (k, r) ∧ Q w k
  stable : ∀ w x k k', 387 ≤ w.length → k'.kc.spk = k.kc.spk → k'.kc.cpk = k.kc.cpk → Q w k → Q (w ++ x) k'

theorem IsSub.consumed (hf : IsSub f Q) {w : Bytes} {k : KeysAndCert} {r : Bytes} (h : f w = some (k, r)) :
    ∃ b, k.bytes = some b ∧ b ++ r = w :=
  readKac_consumed ((hf.iff w k r).mp h).1

theorem IsSub.append (hf : IsSub f Q) {w : Bytes} {k : KeysAndCert} {r : Bytes} (h : f w = some (k, r)) (x : Bytes) :
    ∃ k', f (w ++ x) = some (k', r ++ x) ∧ k'.bytes = k.bytes ∧ k'.pub = k.pub ∧
      k'.padding = k.padding ∧ k'.sig = k.sig ∧ k'.kc.spk = k.kc.spk ∧ k'.kc.cpk = k.kc.cpk := by
  obtain ⟨hk, hq⟩ := (hf.iff w k r).mp h
  obtain ⟨k', h', hb, hP, hD, hS, hs, hc⟩ := readKac_append hk x
  exact ⟨k', (hf.iff _ _ _).mpr ⟨h', hf.stable w x k k' (readKac_iff.mp hk).len hs hc hq⟩, hb, hP, hD, hS, hs, hc⟩

theorem IsSub.no_prefix (hf : IsSub f Q) {w : Bytes} {k : KeysAndCert} (h : f w = some (k, [])) :
    ∀ n, n < w.length → f (w.take n) = none :=
  no_prefix_of_typed_append f hf.append h
end Sub

theorem readDestination_iff {w : Bytes} {k : KeysAndCert} {r : Bytes} :
    readDestination w = some (k, r) ↔ readKac w = some (k, r) ∧ destAllowed k.kc.spk k.kc.cpk = true :=
  kac_filter_some (p := fun k => destAllowed k.kc.spk k.kc.cpk)

theorem readRouterIdentity_iff {w : Bytes} {k : KeysAndCert} {r : Bytes} :
    readRouterIdentity w = some (k, r) ↔ readKac w = some (k, r) ∧ ridAllowed k.kc.spk k.kc.cpk = true :=
  kac_filter_some (p := fun k => ridAllowed k.kc.spk k.kc.cpk)

/-- `% 65536`: `parseOfflineSignature` passes the signing type on as `uint16(·)` -/
theorem readDestination_spk16 {d : Bytes} {k : KeysAndCert} {r : Bytes} (hk : readDestination d = some (k, r)) :
    k.kc.spk % 65536 = k.kc.spk := by
  have a := readKac_iff.mp (readDestination_iff.mp hk).1
  exact Nat.mod_eq_of_lt (sigPubSize_lt _ (Nat.ne_of_gt a.sizes.2.2.1))

theorem isSub_of_policy {f : Bytes → Option (KeysAndCert × Bytes)} {p : Nat → Nat → Bool}
    (hf : ∀ {w k r}, f w = some (k, r) ↔ readKac w = some (k, r) ∧ p k.kc.spk k.kc.cpk = true) :
    IsSub f (fun _ k => p k.kc.spk k.kc.cpk = true) where
  iff := fun _ _ _ => hf
  stable := fun _ _ _ _ _ hs hc hq => by rw [hs, hc]; exact hq

theorem readDestination_isSub : IsSub readDestination (fun _ k => destAllowed k.kc.spk k.kc.cpk = true) :=
  isSub_of_policy readDestination_iff

theorem readRouterIdentity_isSub : IsSub readRouterIdentity (fun _ k => ridAllowed k.kc.spk k.kc.cpk = true) :=
  isSub_of_policy readRouterIdentity_iff

theorem readKacFast_some {c : Nat} {w : Bytes} {k : KeysAndCert} {r : Bytes} :
    readKacFast c w = some (k, r) ↔
      387 ≤ w.length ∧ ∃ kc, newKeyCert (w.drop 384) = some (kc, r) ∧ kc.spk = 7 ∧ kc.cpk = c ∧
        k = { kc := kc, pub := w.take (cryptoSize c), padding := (w.take 352).drop (cryptoSize c),
              sig := (w.take 384).drop 352 } := by
  unfold readKacFast
  rw [Option.ite_none_left_eq_some, Nat.not_lt]
  refine and_congr_right fun _ => keyCert_match_some.trans ?_
  simp only [↓Option.ite_none_left_eq_some, Option.some.injEq, Prod.mk.injEq, not_or, Decidable.not_not]
  exact ⟨fun ⟨kc, _, hn, ⟨h7, hc⟩, hk, e⟩ => ⟨kc, e ▸ hn, h7, hc, hk.symm⟩,
    fun ⟨kc, hn, h7, hc, hk⟩ => ⟨kc, r, hn, ⟨h7, hc⟩, hk.symm, rfl⟩⟩

/-- the fixed layout of the fast readers is the generic one for (Ed25519, `c`): `sigPubSize 7 = 32` -/
theorem readKacFast_iff {c : Nat} (hc : c = 0 ∨ c = 4) {w : Bytes} {k : KeysAndCert} {r : Bytes} :
    readKacFast c w = some (k, r) ↔
      readKac w = some (k, r) ∧ (w.drop 384).head? = some 5 ∧ k.kc.spk = 7 ∧ k.kc.cpk = c := by
  have hcc : cryptoConstructible c = true := by rcases hc with rfl | rfl <;> rfl
  rw [readKacFast_some, readKac_iff]
  constructor
  · rintro ⟨hlen, kc, hn, hs, rfl, rfl⟩
    obtain ⟨t, ht⟩ := newKeyCert_head hn
    have h352 : 384 - sigPubSize kc.spk = 352 := by rw [hs]; rfl
    exact ⟨⟨hlen, .of_key hn, hcc, by rw [hs]; rfl, rfl, by rw [h352], by rw [h352]⟩, by rw [ht]; rfl, hs, rfl⟩
  · rintro ⟨a, h5, hs, rfl⟩
    have hD := a.padding
    have hS := a.sig
    rw [show 384 - sigPubSize k.kc.spk = 352 by rw [hs]; rfl] at hD hS
    refine ⟨a.len, k.kc, ?_, hs, rfl, by rw [← a.pub, ← hD, ← hS]⟩
    rcases a.cert.types with ⟨hk, -⟩ | ⟨hk, -, -⟩
    · exact a.cert.key hk
    · obtain ⟨t, hv⟩ := cons_of_take_one (a.kind.symm.trans hk)
      rw [hv] at h5; cases h5

theorem readKacFast_isSub {c : Nat} (hc : c = 0 ∨ c = 4) :
    IsSub (readKacFast c) (fun w k => (w.drop 384).head? = some 5 ∧ k.kc.spk = 7 ∧ k.kc.cpk = c) where
  iff := fun _ _ _ => readKacFast_iff hc
  stable := by
    intro w x k k' hlen hs hcp ⟨h5, h7, hc'⟩
    refine ⟨?_, by rw [hs]; exact h7, by rw [hcp]; exact hc'⟩
    rw [List.drop_append_of_le_length (by omega), List.head?_append, h5]
    rfl

/-- the input is grouped as `Spec.identityCodec` writes it -/
theorem readKac_accepts_core {ck pad sk C x : Bytes} {kc : KeyCert} (hp : KcParse (C ++ x) kc x)
    (hC : kc.cert.bytes = C) (hcc : cryptoConstructible kc.cpk = true) (hsc : sigConstructible kc.spk = true)
    (hck : ck.length = cryptoSize kc.cpk) (hsk : sk.length = sigPubSize kc.spk)
    (hpad : pad.length = 384 - cryptoSize kc.cpk - sigPubSize kc.spk) :
    ∃ k, readKac (ck ++ (pad ++ sk) ++ C ++ x) = some (k, x) ∧ k.bytes = some (ck ++ (pad ++ sk) ++ C) ∧
      k.pub = ck ∧ k.padding = pad ∧ k.sig = sk ∧ k.kc.spk = kc.spk ∧ k.kc.cpk = kc.cpk := by
  have h1 := cryptoSize_le kc.cpk
  have h2 := (sigPubSize_of_constructible hsc).2
  have hA : (ck ++ pad).length = 384 - sigPubSize kc.spk := by rw [List.length_append]; omega
  have hB : (ck ++ pad ++ sk).length = 384 := by
    rw [List.length_append, hA, hsk, Nat.sub_add_cancel (Nat.le_trans h2 (by decide))]
  have a : Parsed (ck ++ pad ++ sk ++ (C ++ x)) ⟨kc, ck, pad, sk⟩ x := by
    refine ⟨?_, by rw [List.drop_left' hB]; exact hp, hcc, hsc, ?_, ?_, ?_⟩
    · rw [List.length_append, hB]; exact Nat.add_le_add_left (readCert_some.mp hp.read).1 384
    · rw [List.append_assoc, List.append_assoc, List.take_left' hck]
    · rw [List.append_assoc (ck ++ pad), List.take_left' hA, List.drop_left' hck]
    · rw [List.take_left' hB, List.drop_left' hA]
  refine ⟨⟨kc, ck, pad, sk⟩, ?_, ?_, rfl, rfl, rfl, rfl, rfl⟩
  · rw [List.append_assoc (ck ++ (pad ++ sk)), ← List.append_assoc ck]
    exact readKac_iff.mpr a
  · rw [a.bytes, List.take_left' hB, hC, List.append_assoc ck]

theorem readKac_accepts (s c : Nat) (hs : sigConstructible s = true) (hc : cryptoConstructible c = true)
    (ck pad sk extra x : Bytes)
    (hck : ck.length = cryptoSize c) (hsk : sk.length = sigPubSize s)
    (hpad : pad.length = 384 - cryptoSize c - sigPubSize s) (hex : extra.length ≤ 65531) :
    let P := beEnc 2 s ++ (beEnc 2 c ++ extra)
    ∃ k, readKac (ck ++ (pad ++ sk) ++ ([5] ++ (beEnc 2 P.length ++ P)) ++ x) = some (k, x) ∧
      k.bytes = some (ck ++ (pad ++ sk) ++ ([5] ++ (beEnc 2 P.length ++ P))) ∧
      k.pub = ck ∧ k.padding = pad ∧ k.sig = sk ∧ k.kc.spk = s ∧ k.kc.cpk = c := by
  intro P
  -- a type with a table entry is a 16-bit code
  have hs16 : s < 256 ^ 2 := sigPubSize_lt s (Nat.ne_of_gt (sigPubSize_of_constructible hs).1)
  have hc16 : c < 256 ^ 2 := cryptoSize_lt c (by have := cryptoSize_of_constructible hc; omega)
  have hl : P.length = 4 + extra.length := by
    rw [List.length_append, List.length_append, beEnc_length, beEnc_length, ← Nat.add_assoc]
  obtain ⟨hcert, hdata, hcb⟩ := readCert_mk [5] _ P x rfl (beEnc_length _ _) (beVal_beEnc 2 _ (by omega))
  refine readKac_accepts_core (kc := ⟨⟨[5], _, P ++ x⟩, s, c⟩)
    ⟨hcert, .inl ⟨rfl, keyCertFromCert_some.mpr ⟨rfl, by rw [hdata, hl]; exact Nat.le_add_right 4 _, ?_⟩⟩⟩
    hcb hc hs hck hsk hpad
  rw [mkKeyCert, hdata, List.take_left' (beEnc_length _ _), List.drop_left' (beEnc_length _ _),
    List.take_left' (beEnc_length _ _), beVal_beEnc 2 s hs16, beVal_beEnc 2 c hc16]

/-- a NULL certificate with payload `p`: ElGamal and DSA-SHA1 keys, no padding -/
theorem readKac_accepts_null (ck sk p x : Bytes) (hck : ck.length = 256) (hsk : sk.length = 128)
    (hp : p.length ≤ 65535) :
    ∃ k, readKac (ck ++ sk ++ ([0] ++ (beEnc 2 p.length ++ p)) ++ x) = some (k, x) ∧
      k.bytes = some (ck ++ sk ++ ([0] ++ (beEnc 2 p.length ++ p))) ∧
      k.pub = ck ∧ k.padding = [] ∧ k.sig = sk ∧ k.kc.spk = 0 ∧ k.kc.cpk = 0 := by
  obtain ⟨hcert, -, hcb⟩ := readCert_mk [0] _ p x rfl (beEnc_length _ _) (beVal_beEnc 2 _ (Nat.lt_succ_of_le hp))
  have := readKac_accepts_core (kc := ⟨⟨[0], _, p ++ x⟩, 0, 0⟩) (pad := []) ⟨hcert, .inr ⟨rfl, rfl, rfl⟩⟩ hcb rfl rfl
    hck hsk (show ([] : Bytes).length = 384 - cryptoSize 0 - sigPubSize 0 by decide)
  rwa [List.nil_append] at this

/-- a (Ed25519, X25519) KEY-certificate identity is accepted by every reader, so the premises
    `read w = some (k, [])` of the `_consumed` / `_append` / `_no_prefix` lemmas are satisfiable -/
example : ∃ w k, readKac w = some (k, []) ∧ readKacFast 4 w = some (k, []) ∧
    readDestination w = some (k, []) ∧ readRouterIdentity w = some (k, []) := by
  obtain ⟨k, h, _, _, _, _, hs, hc⟩ := readKac_accepts 7 4 rfl rfl
    (List.replicate 32 0) (List.replicate 320 0) (List.replicate 32 0) [] []
    List.length_replicate List.length_replicate List.length_replicate (by decide)
  refine ⟨_, k, h, (readKacFast_iff (.inr rfl)).mpr ⟨h, ?_, hs, hc⟩, ?_, ?_⟩
  · -- a NULL certificate would mean signing type 0
    have a := readKac_iff.mp h
    rcases a.cert.types with ⟨h5, -⟩ | ⟨-, h0, -⟩
    · obtain ⟨t, hv⟩ := cons_of_take_one (a.kind.symm.trans h5)
      rw [hv]; rfl
    · rw [h0] at hs; cases hs
  · exact readDestination_iff.mpr ⟨h, by rw [hs, hc]; rfl⟩
  · exact readRouterIdentity_iff.mpr ⟨h, by rw [hs, hc]; rfl⟩

/-- the NULL-certificate path is inhabited as well -/
example : ∃ w k, readKac w = some (k, []) ∧ k.kc.spk = 0 ∧ k.kc.cpk = 0 := by
  obtain ⟨k, h, _, _, _, _, hs, hc⟩ := readKac_accepts_null (List.replicate 256 0) (List.replicate 128 0) [] []
    List.length_replicate List.length_replicate (by decide)
  exact ⟨_, k, h, hs, hc⟩

end I2P.Kac
