import I2P.FailShape
import I2P.Proofs.StructLemmas
/-! Lemmas about `I2P/FailShape.lean`.  Every `stop…` function gets a case principle `stop…_ind` (the values it hands
    out, with the classes of their fields), an agreement lemma `stop…_none` (it hands out nothing exactly when the
    reader model accepts) and, from the case principle, `stop…_cls` (the class of the value is in the reader's list). -/
namespace I2P.FailShape
open I2P.Kac I2P.Structs Shape

/-! Every `stop…` function is a chain `if c₁ then some x₁ else if c₂ then some x₂ else …` that mirrors, test by
test, the chain `if c₁ then none else if c₂ then none else …` of the reader. -/

theorem guard_some {α : Type} {c : Prop} [Decidable c] {x o : α} {rest : Option α} {P : α → Prop}
    (h : (if c then some x else rest) = some o) (hx : P x) (hr : rest = some o → P o) : P o := by
  split at h
  · cases h; exact hx
  · exact hr h

theorem guard_none {α β : Type} {c : Prop} [Decidable c] {x : α} {s : Option α} {r : Option β}
    (h : s = none ↔ r.isSome = true) : (if c then some x else s) = none ↔ (if c then none else r).isSome = true := by
  split <;> simp [h]

theorem stops_of_not {acc : Prop} {stop : Option Obs} {P : Obs → Prop}
    (hnone : stop = none ↔ acc) (hP : ∀ {o}, stop = some o → P o) (h : ¬acc) : ∃ o, stop = some o ∧ P o := by
  cases hs : stop with
  | none => exact absurd (hnone.mp hs) h
  | some o => exact ⟨o, rfl, hP hs⟩

theorem stops_with {α : Type} {read : Option α} {stop : Option Obs} {P : Obs → Prop}
    (hnone : stop = none ↔ read.isSome = true) (hP : ∀ {o}, stop = some o → P o) (h : read = none) :
    ∃ o, stop = some o ∧ P o :=
  stops_of_not hnone hP (by simp [h])

@[simp] theorem cls_ofList (l : List Shape) : (ofList l).cls = ofList (l.map cls) := by
  induction l with
  | nil => rfl
  | cons h t ih => simp [ofList, cls, ih]

@[simp] theorem cls_S (l : List Shape) : (S l).cls = S (l.map cls) := by simp [S, cls]

theorem cls_E (l : List Shape) : (E l).cls = .elems (dedup (ofList (l.map cls))) := by simp [E, cls]

theorem dedup_replicate (a : Shape) : ∀ n, dedup (ofList (List.replicate (n + 1) a)) = ofList [a]
  | 0 => rfl
  | n + 1 => by rw [List.replicate_succ, ofList, dedup, dedup_replicate a n]; simp [ofList, remove]

theorem dedup_replicate_append {a b : Shape} (hab : a ≠ b) (m : Nat) :
    ∀ n, dedup (ofList (List.replicate (n + 1) a ++ List.replicate (m + 1) b)) = ofList [a, b]
  | 0 => by
    rw [List.replicate_one, List.singleton_append, ofList, dedup, dedup_replicate b m]; simp [ofList, remove, hab.symm]
  | n + 1 => by
    rw [List.replicate_succ, List.cons_append, ofList, dedup, dedup_replicate_append hab m n]
    simp [ofList, remove, hab.symm]

theorem map_cls_of_all {l : List Shape} {a : Shape} (h : ∀ x ∈ l, x.cls = a) : l.map cls = List.replicate l.length a :=
  List.eq_replicate_iff.mpr ⟨List.length_map _, by simpa using h⟩

@[simp] theorem cls_sig0 : sig0.cls = sig0 := rfl
@[simp] theorem cls_map0 : map0.cls = map0 := rfl
@[simp] theorem cls_key0 : key0.cls = key0 := rfl
@[simp] theorem cls_entry0 : entry0.cls = entry0 := rfl
@[simp] theorem cls_dest0 : dest0.cls = dest0 := rfl
@[simp] theorem cls_off0 : off0.cls = off0 := rfl
@[simp] theorem cls_ra0 : ra0.cls = ra0 := rfl
@[simp] theorem cls_els0 : els0.cls = els0 := rfl
@[simp] theorem cls_ls20 : ls20.cls = ls20 := rfl
@[simp] theorem cls_meta0 : meta0.cls = meta0 := rfl
@[simp] theorem cls_ri0 : ri0.cls = ri0 := rfl

theorem zstop_none {a : Bool} {z : Shape} : zstop a z = none ↔ a = true := by
  unfold zstop; cases a <;> simp
theorem zstop_some {a : Bool} {z : Shape} {o : Obs} : zstop a z = some o ↔ a = false ∧ o = ⟨true, z⟩ := by
  unfold zstop; cases a <;> simp [eq_comm]

@[elab_as_elim]
theorem stopStr_ind {P : Obs → Prop} {d : Bytes} {o : Obs} (h : stopStr d = some o) (hz : P ⟨true, .nil⟩)
    (hp : P ⟨false, .bytes d.length⟩) : P o := by
  unfold stopStr at h
  split at h <;> cases h <;> assumption

theorem stopStr_cls {d : Bytes} {o : Obs} (h : stopStr d = some o) : o.shape.cls ∈ shapes_ReadI2PString :=
  stopStr_ind h List.mem_cons_self (by simp [cls, shapes_ReadI2PString])

/-- `size` is stored once two bytes were read; without them there are no values either -/
theorem mapShape_noSize {d : Bytes} (h : (Mapping.readMapping d).hasSize = false) :
    mapShape (Mapping.readMapping d) = map0 := by
  revert h
  fun_cases Mapping.readMapping d
  case case4 => exact fun _ => rfl
  all_goals exact nofun

theorem mapShape_cls (d : Bytes) : (mapShape (Mapping.readMapping d)).cls ∈ shapes_ReadMapping := by
  cases hs : (Mapping.readMapping d).hasSize
  · rw [mapShape_noSize hs]; decide
  · unfold mapShape
    cases (Mapping.readMapping d).vals <;> simp [hs, cls, shapes_ReadMapping, mapNoValsCls, mapOkCls]

theorem mapShape_accepted {d : Bytes} (h : Mapping.accepted (Mapping.readMapping d) = true) :
    (mapShape (Mapping.readMapping d)).cls = mapOkCls := by
  obtain ⟨ps, r, es, -, he⟩ := Mapping.accepted_eq d h
  rw [he]
  rfl

theorem stopMapping_some {d : Bytes} {o : Obs} (h : stopMapping d = some o) :
    o = ⟨!(Mapping.readMapping d).hasSize, mapShape (Mapping.readMapping d)⟩ :=
  (Option.some.inj (Option.ite_none_left_eq_some.mp h).2).symm

theorem stopNewMapping_some {d : Bytes} {o : Obs} (h : stopNewMapping d = some o) :
    o = ⟨false, .ptr (mapShape (Mapping.readMapping d))⟩ :=
  (Option.some.inj (Option.ite_none_left_eq_some.mp h).2).symm

theorem stopMapping_cls {d : Bytes} {o : Obs} (h : stopMapping d = some o) : o.shape.cls ∈ shapes_ReadMapping := by
  rw [stopMapping_some h]; exact mapShape_cls d

theorem stopNewMapping_cls {d : Bytes} {o : Obs} (h : stopNewMapping d = some o) : o.shape.cls ∈ shapes_NewMapping := by
  rw [stopNewMapping_some h]; exact List.mem_map_of_mem (f := Shape.ptr) (mapShape_cls d)

@[elab_as_elim]
theorem stopOffSig_ind {P : Obs → Prop} {d : Bytes} {t : Nat} {o : Obs} (h : stopOffSig d t = some o)
    (hz : ∀ z, P ⟨z, off0⟩) (hp : ∀ ks, P ⟨false, S [.scalar, .scalar, .bytes ks, .nil, .scalar]⟩) : P o := by
  unfold stopOffSig at h
  simp only [] at h
  refine guard_some h (hz _) fun h => ?_
  refine guard_some h (hz _) fun h => ?_
  refine guard_some h (hz _) fun h => ?_
  refine guard_some h (hp _) fun h => ?_
  refine guard_some h (hp _) fun h => ?_
  cases h

theorem stopOffSig_cls {d : Bytes} {t : Nat} {o : Obs} (h : stopOffSig d t = some o) :
    o.shape.cls ∈ shapes_ReadOfflineSignature :=
  stopOffSig_ind h (fun _ => List.mem_cons_self) (fun _ => by simp [cls, shapes_ReadOfflineSignature])

@[elab_as_elim]
theorem stopKacFast_ind {P : Obs → Prop} {c : Nat} {w : Bytes} {o : Obs} (h : stopKacFast c w = some o)
    (hz : P ⟨true, .nil⟩) (hp : ∀ K n, P ⟨false, .ptr (S [.nil, .iface K, .bytes n, .iface (.bytes 32)])⟩) : P o := by
  unfold stopKacFast at h
  refine guard_some h hz fun h => ?_
  split at h
  · cases h; exact hp _ _
  · exact guard_some h hz fun h => by cases h

theorem stopKacFast_cls {c : Nat} {w : Bytes} {o : Obs} (h : stopKacFast c w = some o) :
    o.shape.cls ∈ shapes_ReadKeysAndCertFast :=
  stopKacFast_ind h List.mem_cons_self (fun _ _ => by simp [cls, shapes_ReadKeysAndCertFast])

@[elab_as_elim]
theorem stopRA_ind {P : Obs → Prop} {d : Bytes} {o : Obs} (h : stopRA d = some o) (hz : P ⟨true, ra0⟩)
    (h1 : P ⟨false, S [.ptr (.bytes 1), .ptr (.arr 8), .nil, .nil]⟩)
    (h2 : ∀ n r, P ⟨false, S [.ptr (.bytes 1), .ptr (.arr 8), .bytes n, .ptr (mapShape (Mapping.readMapping r))]⟩) : P o := by
  unfold stopRA at h
  refine guard_some h hz fun h => ?_
  generalize readStr (d.drop 9) = q at h
  obtain ⟨str, r, e⟩ := q
  simp only [] at h
  refine guard_some h h1 fun h => ?_
  exact guard_some h (h2 _ _) fun h => by cases h

theorem stopRA_cls {d : Bytes} {o : Obs} (h : stopRA d = some o) : o.shape.cls ∈ shapes_ReadRouterAddress :=
  stopRA_ind h List.mem_cons_self (List.mem_cons_of_mem _ List.mem_cons_self) fun _ r =>
    List.mem_append_right _ (List.mem_map_of_mem (f := fun M => S [.ptr .bstar, .ptr (.arr 8), .bstar, .ptr M]) (mapShape_cls r))

theorem offField_cls (flags sigT dt : Nat) : (offField flags sigT dt).cls ∈ offClasses := by
  unfold offField
  split
  · simp [cls, offOk, offCls, offClasses]
  · simp [cls, offClasses]

@[elab_as_elim]
theorem elsTail_ind {P : Obs → Prop} {K O : Shape} {r : Bytes} {e t : Nat} {o : Obs} (h : elsTail K O r e t = some o)
    (hz : P ⟨true, els0⟩) (hp : ∀ I, I.cls ∈ [Shape.nil, .bstar] → P ⟨false, elsPart K O I⟩) : P o := by
  have hnil := hp .nil (by decide)
  unfold elsTail at h
  simp only [] at h
  refine guard_some h hnil fun h => ?_
  refine guard_some h hnil fun h => ?_
  refine guard_some h hnil fun h => ?_
  split at h
  · cases h; exact hp _ (by simp [cls])
  · refine guard_some h hz fun h => ?_
    exact guard_some h hz fun h => by cases h

@[elab_as_elim]
theorem stopELS_ind {P : Obs → Prop} {d : Bytes} {o : Obs} (h : stopELS d = some o) (hz : ∀ z, P ⟨z, els0⟩)
    (hp : ∀ ks O I, O.cls ∈ offClasses → I.cls ∈ [Shape.nil, .bstar] → P ⟨false, elsPart (.bytes ks) O I⟩) : P o := by
  have hnil := fun ks => hp ks .nil .nil (by decide) (by decide)
  unfold stopELS at h
  simp only [] at h
  refine guard_some h (hz _) fun h => ?_
  refine guard_some h (hz _) fun h => ?_
  refine guard_some h (hz _) fun h => ?_
  refine guard_some h (hnil _) fun h => ?_
  refine guard_some h (hnil _) fun h => ?_
  split at h
  · cases h; exact hnil _
  · exact elsTail_ind h (hz _) fun I hI => hp _ _ I (offField_cls _ _ _) hI

theorem els_mem {O I : Shape} (hO : O ∈ offClasses) (hI : I ∈ [Shape.nil, .bstar]) :
    elsMk .bstar O I ∈ shapes_ReadEncryptedLeaseSet := by
  simp only [offClasses, List.mem_cons, List.not_mem_nil, or_false] at hO hI
  rcases hO with rfl | rfl <;> rcases hI with rfl | rfl <;> simp [shapes_ReadEncryptedLeaseSet]

-- `(elsPart (.bytes ks) O I).cls` unfolds to `elsMk .bstar O.cls I.cls`, so the membership lemma applies as it stands;
-- likewise for `stopLS2_cls`, `stopMeta_cls` and `stopRI_cls` below
theorem stopELS_cls {d : Bytes} {o : Obs} (h : stopELS d = some o) : o.shape.cls ∈ shapes_ReadEncryptedLeaseSet :=
  stopELS_ind h (fun _ => List.mem_cons_self) fun _ _ _ hO hI => els_mem hO hI

theorem E_cls_all {l : List Shape} {a : Shape} (h : ∀ x ∈ l, x.cls = a) (hl : l ≠ []) : (E l).cls = EC [a] := by
  obtain ⟨n, hn⟩ := Nat.exists_eq_succ_of_ne_zero (mt List.length_eq_zero_iff.mp hl)
  rw [cls_E, map_cls_of_all h, hn, dedup_replicate]; rfl

/-- What a walk over `n₀` length-prefixed elements returns (`keysWalk`, `entriesWalk`): on success `n₀` complete
    elements (class `ok`), on failure complete elements followed by at least one untouched one (the zero
    element `z`, which is its own class). -/
def WalkOut (ok z : Shape) (n₀ : Nat) : List Shape × Option Bytes → Prop
  | (l, some _) => (∀ x ∈ l, x.cls = ok) ∧ l.length = n₀
  | (l, none) => ∃ p m, l = p ++ List.replicate (m + 1) z ∧ ∀ x ∈ p, x.cls = ok

theorem WalkOut.fail {ok z : Shape} {n₀ m : Nat} {acc : List Shape} (h : ∀ x ∈ acc, x.cls = ok) :
    WalkOut ok z n₀ (acc ++ List.replicate (m + 1) z, none) := ⟨acc, m, rfl, h⟩

theorem WalkOut.cls {ok z : Shape} {n₀ : Nat} {l : List Shape} {r : Option Bytes} (hne : ok ≠ z) (hz : z.cls = z)
    (hn : n₀ ≠ 0) (h : WalkOut ok z n₀ (l, r)) :
    (E l).cls ∈ (match r with | some _ => [EC [ok]] | none => [EC [z], EC [ok, z]]) := by
  cases r with
  | some r =>
    have : l ≠ [] := by rintro rfl; exact hn h.2.symm
    simp [E_cls_all h.1 this]
  | none =>
    obtain ⟨p, m, rfl, hp⟩ := h
    rw [cls_E, List.map_append, map_cls_of_all hp, List.map_replicate, hz]
    cases p.length with
    | zero => simp [dedup_replicate, EC]
    | succ n => simp [dedup_replicate_append hne, EC]

theorem kacOk_cls (k : KeysAndCert) : (kacOk k).cls ∈ kacClasses := by
  unfold kacOk
  simp only []
  split
  · simp [cls, kacClasses, kacClsNoPad]
  · simp [cls, kacClasses, kacClsPad]

theorem keysWalk_spec (n : Nat) (d : Bytes) (acc : List Shape) (hacc : ∀ x ∈ acc, x.cls = keyOkCls) :
    WalkOut keyOkCls key0 (acc.length + n) (keysWalk n d acc) := by
  fun_induction keysWalk n d acc
  case case1 => exact ⟨hacc, rfl⟩
  case case2 => exact .fail hacc
  case case3 => exact .fail hacc
  case case4 ih =>
    have := ih (List.forall_mem_append.mpr ⟨hacc, by simp [cls, keyOkCls]⟩)
    rwa [List.length_append, List.length_singleton, Nat.add_assoc, Nat.add_comm 1] at this

/-- the (keys, leases) fields of a LeaseSet2 whose options were accepted, as classes -/
def ls2KL : List (Shape × Shape) :=
  [(.nil, .nil), (EC [key0], .nil), (EC [keyOkCls, key0], .nil), (EC [keyOkCls], .nil), (EC [keyOkCls], .sstar)]

theorem ls2_mem_ok {kc D O M K L : Shape} (hkc : kc ∈ kacClasses) (hD : D = S [kc]) (hO : O ∈ offClasses)
    (hM : M = mapOkCls) (hKL : (K, L) ∈ ls2KL) : ls2Mk D O M K L ∈ shapes_ReadLeaseSet2 := by
  subst hD hM
  exact List.mem_cons_of_mem _ <| List.mem_flatMap.mpr ⟨kc, hkc, List.mem_append_right _ <| List.mem_flatMap.mpr
    ⟨O, hO, List.mem_map_of_mem (f := fun KL : Shape × Shape => ls2Mk (S [kc]) O mapOkCls KL.1 KL.2) hKL⟩⟩

theorem ls2_mem_0 {kc D O : Shape} (hkc : kc ∈ kacClasses) (hD : D = S [kc]) (hO : O ∈ offClasses) :
    ls2Mk D O map0 .nil .nil ∈ shapes_ReadLeaseSet2 := by
  subst hD
  exact List.mem_cons_of_mem _ <| List.mem_flatMap.mpr ⟨kc, hkc, List.mem_append_left _ <|
    List.mem_map_of_mem (f := fun O => ls2Mk (S [kc]) O map0 .nil .nil) hO⟩

@[elab_as_elim]
theorem ls2Tail_ind {P : Obs → Prop} {D O M : Shape} {r : Bytes} {sigT : Nat} {o : Obs}
    (h : ls2Tail D O M r sigT = some o)
    (hp : ∀ K L, (K.cls, L.cls) ∈ ls2KL → P ⟨false, S [D, .scalar, .scalar, .scalar, O, M, K, L, sig0]⟩) : P o := by
  have hnil := hp .nil .nil (by decide)
  have hw {n d ks res} (hn : ¬(n < 1 ∨ n > 16)) (hk : keysWalk n d [] = (ks, res)) :=
    hk ▸ (keysWalk_spec n d [] nofun).cls (by decide) cls_key0 (by omega)
  -- once all keys are read they stay; the leases are absent or a plain slice
  have hok {ks} (L : Shape) (hK : (E ks).cls ∈ [EC [keyOkCls]]) (hL : L = .nil ∨ L.cls = .sstar) :
      P ⟨false, S [D, .scalar, .scalar, .scalar, O, M, E ks, L, sig0]⟩ :=
    hp _ _ (by rcases hL with rfl | hL <;> simp [List.mem_singleton.mp hK, cls, *, ls2KL])
  revert h
  fun_cases ls2Tail D O M r sigT <;> intro h <;> cases h
  case case1 => exact hnil
  case case2 => exact hnil
  case case3 hn _ hk =>
    have := hw hn hk
    simp only [List.mem_cons, List.not_mem_nil, or_false] at this
    exact hp _ _ (by rcases this with h | h <;> simp [h, cls, ls2KL])
  case case4 hn _ hk => exact hok _ (hw hn hk) (.inl rfl)
  case case5 hn _ _ _ _ hk => exact hok _ (hw hn hk) (.inl rfl)
  case case6 hn _ _ _ _ _ hk => exact hok _ (hw hn hk) (.inl rfl)
  case case7 hn _ _ _ _ _ _ _ _ hk => exact hok _ (hw hn hk) (.inr rfl)

@[elab_as_elim]
theorem stopHdr_ind {P : Obs → Prop} {minLen : Nat} {z : Shape} {part : Shape → Shape → Shape → Shape}
    {cont : Shape → Shape → Shape → Bytes → Nat → Option Obs} {d : Bytes} {o : Obs}
    (h : stopHdr minLen z part cont d = some o) (hz : P ⟨true, z⟩)
    (hA : ∀ kc D O, kc ∈ kacClasses → D.cls = S [kc] → O.cls ∈ offClasses → P ⟨false, part D O map0⟩)
    (hC : ∀ kc D O M r3 sigT, kc ∈ kacClasses → D.cls = S [kc] → O.cls ∈ offClasses → M.cls = mapOkCls →
      cont D O M r3 sigT = some o → P o) : P o := by
  have hD k : (destOk k).cls = S [(kacOk k).cls] := by simp [destOk]
  have hnil k := hA _ _ .nil (kacOk_cls k) (hD k) (by decide)
  revert h
  fun_cases stopHdr minLen z part cont d <;> intro h
  case case6 hopt =>
    exact hC _ _ _ _ _ _ (kacOk_cls _) (hD _) (offField_cls _ _ _) (mapShape_accepted (readOptions_some.mp hopt).1) h
  all_goals cases h
  case case1 => exact hz
  case case2 => exact hz
  case case3 => exact hnil _
  case case4 => exact hnil _
  case case5 => exact hA _ _ _ (kacOk_cls _) (hD _) (offField_cls _ _ _)

@[elab_as_elim]
theorem stopLS2_ind {P : Obs → Prop} {d : Bytes} {o : Obs} (h : stopLS2 d = some o) (hz : P ⟨true, ls20⟩)
    (hA : ∀ kc D O, kc ∈ kacClasses → D.cls = S [kc] → O.cls ∈ offClasses →
      P ⟨false, S [D, .scalar, .scalar, .scalar, O, map0, .nil, .nil, sig0]⟩)
    (hC : ∀ kc D O M K L, kc ∈ kacClasses → D.cls = S [kc] → O.cls ∈ offClasses → M.cls = mapOkCls →
      (K.cls, L.cls) ∈ ls2KL → P ⟨false, S [D, .scalar, .scalar, .scalar, O, M, K, L, sig0]⟩) : P o :=
  stopHdr_ind h hz hA fun kc D O M _ _ hkc hD hO hM hc => ls2Tail_ind hc fun K L => hC kc D O M K L hkc hD hO hM

theorem stopLS2_cls {d : Bytes} {o : Obs} (h : stopLS2 d = some o) : o.shape.cls ∈ shapes_ReadLeaseSet2 :=
  stopLS2_ind h List.mem_cons_self (fun _ _ _ hkc hD hO => ls2_mem_0 hkc hD hO)
    fun _ _ _ _ _ _ hkc hD hO hM hKL => ls2_mem_ok hkc hD hO hM hKL

theorem entriesWalk_spec (n : Nat) (d : Bytes) (acc : List Shape) (hacc : ∀ x ∈ acc, x.cls = entryOkCls) :
    WalkOut entryOkCls entry0 (acc.length + n) (entriesWalk n d acc) := by
  fun_induction entriesWalk n d acc
  case case1 => exact ⟨hacc, rfl⟩
  case case2 => exact .fail hacc
  case case3 => exact .fail hacc
  case case4 => exact .fail hacc
  case case5 hopt ih =>
    have := ih (List.forall_mem_append.mpr
      ⟨hacc, by simp [cls, entryOkCls, mapShape_accepted (readOptions_some.mp hopt).1]⟩)
    rwa [List.length_append, List.length_singleton, Nat.add_assoc, Nat.add_comm 1] at this

/-- the entries field of a MetaLeaseSet whose options were accepted, as classes -/
def metaN : List Shape := [.nil, EC [entry0], EC [entryOkCls, entry0], EC [entryOkCls]]

theorem meta_mem_ok {kc D O M N : Shape} (hkc : kc ∈ kacClasses) (hD : D = S [kc]) (hO : O ∈ offClasses)
    (hM : M = mapOkCls) (hN : N ∈ metaN) : metaMk D O M N ∈ shapes_ReadMetaLeaseSet := by
  subst hD hM
  exact List.mem_cons_of_mem _ <| List.mem_flatMap.mpr ⟨kc, hkc, List.mem_append_right _ <| List.mem_flatMap.mpr
    ⟨O, hO, List.mem_map_of_mem (f := fun N => metaMk (S [kc]) O mapOkCls N) hN⟩⟩

theorem meta_mem_0 {kc D O : Shape} (hkc : kc ∈ kacClasses) (hD : D = S [kc]) (hO : O ∈ offClasses) :
    metaMk D O map0 .nil ∈ shapes_ReadMetaLeaseSet := by
  subst hD
  exact List.mem_cons_of_mem _ <| List.mem_flatMap.mpr ⟨kc, hkc, List.mem_append_left _ <|
    List.mem_map_of_mem (f := fun O => metaMk (S [kc]) O map0 .nil) hO⟩

@[elab_as_elim]
theorem metaTail_ind {P : Obs → Prop} {D O M : Shape} {r : Bytes} {sigT : Nat} {o : Obs}
    (h : metaTail D O M r sigT = some o)
    (hp : ∀ N, N.cls ∈ metaN → P ⟨false, S [D, .scalar, .scalar, .scalar, O, M, .scalar, N, sig0]⟩) : P o := by
  have hw {n d es res} (hn : ¬(n < 1 ∨ n > 16)) (hk : entriesWalk n d [] = (es, res)) :=
    hk ▸ (entriesWalk_spec n d [] nofun).cls (by decide) cls_entry0 (by omega)
  revert h
  fun_cases metaTail D O M r sigT <;> intro h <;> cases h
  case case1 => exact hp .nil (by decide)
  case case2 => exact hp .nil (by decide)
  case case3 hn _ hk => exact hp _ (List.mem_cons_of_mem _ (List.mem_append_left [_] (hw hn hk)))
  case case4 hn _ _ hk _ => exact hp _ (List.mem_cons_of_mem _ (List.mem_append_right [_, _] (hw hn hk)))

@[elab_as_elim]
theorem stopMeta_ind {P : Obs → Prop} {d : Bytes} {o : Obs} (h : stopMeta d = some o) (hz : P ⟨true, meta0⟩)
    (hA : ∀ kc D O, kc ∈ kacClasses → D.cls = S [kc] → O.cls ∈ offClasses →
      P ⟨false, S [D, .scalar, .scalar, .scalar, O, map0, .scalar, .nil, sig0]⟩)
    (hC : ∀ kc D O M N, kc ∈ kacClasses → D.cls = S [kc] → O.cls ∈ offClasses → M.cls = mapOkCls →
      N.cls ∈ metaN → P ⟨false, S [D, .scalar, .scalar, .scalar, O, M, .scalar, N, sig0]⟩) : P o :=
  stopHdr_ind h hz hA fun kc D O M _ _ hkc hD hO hM hc => metaTail_ind hc fun N => hC kc D O M N hkc hD hO hM

theorem stopMeta_cls {d : Bytes} {o : Obs} (h : stopMeta d = some o) : o.shape.cls ∈ shapes_ReadMetaLeaseSet :=
  stopMeta_ind h List.mem_cons_self (fun _ _ _ hkc hD hO => meta_mem_0 hkc hD hO)
    fun _ _ _ _ _ hkc hD hO hM hN => meta_mem_ok hkc hD hO hM hN

theorem raOk_cls {d b r : Bytes} (h : readRouterAddress d = some (b, r)) : (raOk d).cls = raOkCls := by
  obtain ⟨-, s, r1, hs, ha, -⟩ := readRouterAddress_some.mp h
  simp [raOk, hs, cls, raOkCls, mapShape_accepted ha]

theorem addrsWalk_spec (n : Nat) (d : Bytes) (acc : List Shape) (hacc : ∀ x ∈ acc, x.cls = raOkCls) :
    ∀ x ∈ (addrsWalk n d acc).1, x.cls = raOkCls := by
  fun_induction addrsWalk n d acc
  case case1 => exact hacc
  case case2 => exact hacc
  case case3 hra ih => exact ih (List.forall_mem_append.mpr ⟨hacc, by simp [raOk_cls hra]⟩)

theorem addrsField_cls {l : List Shape} (h : ∀ x ∈ l, x.cls = raOkCls) : (addrsField l).cls ∈ [Shape.nil, EC [raOkCls]] := by
  unfold addrsField
  cases l with
  | nil => decide
  | cons a t => simp [E_cls_all h]

/-- the (peer size, options) fields of a RouterInfo whose addresses were walked, as classes -/
def riPM : List (Shape × Shape) :=
  [(.nil, .nil), (.ptr .bstar, .ptr map0), (.ptr .bstar, .ptr mapNoValsCls), (.ptr .bstar, .ptr mapOkCls)]

theorem ri_mem {kc A P M : Shape} (hkc : kc ∈ kacClasses) (hA : A ∈ [Shape.nil, EC [raOkCls]]) (hPM : (P, M) ∈ riPM) :
    riMk (.ptr (S [kc])) (.ptr (.arr 8)) (.ptr .bstar) A P M ∈ shapes_ReadRouterInfo :=
  List.mem_cons_of_mem _ <| List.mem_flatMap.mpr ⟨kc, hkc, List.mem_append_right _ <| List.mem_flatMap.mpr
    ⟨A, hA, List.mem_map_of_mem
      (f := fun PM : Shape × Shape => riMk (.ptr (S [kc])) (.ptr (.arr 8)) (.ptr .bstar) A PM.1 PM.2) hPM⟩⟩

@[elab_as_elim]
theorem stopRI_ind {P : Obs → Prop} {d : Bytes} {o : Obs} (h : stopRI d = some o) (hz : P ⟨true, ri0⟩)
    (h1 : ∀ k, P ⟨false, S [ridOk k, .nil, .nil, .nil, .nil, .nil, .nil]⟩)
    (h2 : ∀ k, P ⟨false, S [ridOk k, .ptr (.arr 8), .ptr (.bytes 0), .nil, .ptr .nil, .ptr map0, .nil]⟩)
    (h3 : ∀ k A p M, A.cls ∈ [Shape.nil, EC [raOkCls]] → (p.cls, M.cls) ∈ riPM →
      P ⟨false, S [ridOk k, .ptr (.arr 8), .ptr (.bytes 1), A, p, M, .nil]⟩) : P o := by
  have hA {n d as res} (hk : addrsWalk n d [] = (as, res)) : (addrsField as).cls ∈ [Shape.nil, EC [raOkCls]] :=
    addrsField_cls (by have := addrsWalk_spec n d [] nofun; rwa [hk] at this)
  -- past the peer size the options pointer is whatever `NewMapping` returned
  have hM k {as} r (hk : (addrsField as).cls ∈ [Shape.nil, EC [raOkCls]]) :
      P ⟨false, S [ridOk k, .ptr (.arr 8), .ptr (.bytes 1), addrsField as, .ptr (.bytes 1),
        .ptr (mapShape (Mapping.readMapping r)), .nil]⟩ := by
    have hm := mapShape_cls r
    simp only [shapes_ReadMapping, List.mem_cons, List.not_mem_nil, or_false] at hm
    exact h3 k _ _ _ hk (by rcases hm with hm | hm | hm <;> simp [cls, hm, riPM])
  revert h
  fun_cases stopRI d <;> intro h <;> cases h
  case case1 => exact hz
  case case2 => exact h1 _
  case case3 => exact h2 _
  case case4 hk => exact h3 _ _ _ _ (hA hk) (by decide)
  case case5 hk => exact h3 _ _ _ _ (hA hk) (by decide)
  case case6 hk => exact hM _ _ (hA hk)
  case case7 hk => exact hM _ _ (hA hk)

theorem stopRI_cls {d : Bytes} {o : Obs} (h : stopRI d = some o) : o.shape.cls ∈ shapes_ReadRouterInfo := by
  refine stopRI_ind h List.mem_cons_self (fun k => ?_) (fun k => ?_) fun k A p M hA hPM => ri_mem (kacOk_cls k) hA hPM
  · exact List.mem_cons_of_mem _ <| List.mem_flatMap.mpr ⟨_, kacOk_cls k, List.mem_append_left _ List.mem_cons_self⟩
  · exact List.mem_cons_of_mem _ <| List.mem_flatMap.mpr
      ⟨_, kacOk_cls k, List.mem_append_left _ (List.mem_cons_of_mem _ List.mem_cons_self)⟩

theorem stopStr_none (d : Bytes) : stopStr d = none ↔ (readStr d).2.2 = none := by
  unfold stopStr
  split <;> simp_all

theorem stopMapping_none (d : Bytes) : stopMapping d = none ↔ (Mapping.readMapping d).errs = [] := by
  unfold stopMapping
  simp only []
  split <;> simp_all [List.isEmpty_iff]

theorem stopNewMapping_none (d : Bytes) : stopNewMapping d = none ↔ (Mapping.readMapping d).errs = [] := by
  unfold stopNewMapping
  simp only []
  split <;> simp_all [List.isEmpty_iff]

theorem stopOffSig_none (d : Bytes) (t : Nat) : stopOffSig d t = none ↔ (readOffSig d t).isSome = true := by
  unfold stopOffSig readOffSig
  exact guard_none <| guard_none <| guard_none <| guard_none <| guard_none <| by simp

theorem stopKacFast_none (c : Nat) (w : Bytes) : stopKacFast c w = none ↔ (readKacFast c w).isSome = true := by
  unfold stopKacFast readKacFast
  refine guard_none ?_
  cases newKeyCert (w.drop 384) with
  | none => simp
  | some q => exact guard_none <| by simp

theorem stopRA_none (d : Bytes) : stopRA d = none ↔ (readRouterAddress d).isSome = true := by
  unfold stopRA readRouterAddress
  refine guard_none ?_
  generalize readStr (d.drop 9) = q
  obtain ⟨str, r, e⟩ := q
  exact guard_none <| guard_none <| by simp

theorem stopELS_none (d : Bytes) : stopELS d = none ↔ (readELS d).isSome = true := by
  unfold stopELS readELS elsTail
  refine guard_none <| guard_none <| guard_none <| guard_none <| guard_none ?_
  simp only []
  generalize (if _ % 2 = 1 then readOffSig _ _ else _) = off
  cases off with
  | none => simp
  | some q =>
    obtain ⟨ob, r, sigT⟩ := q
    refine guard_none <| guard_none <| guard_none ?_
    cases readSig ((r.drop 2).drop (beVal (r.take 2))) sigT with
    | none => simp
    | some s => exact guard_none <| guard_none <| by simp

/-- one test of a walk against the same test of the reader's loop -/
theorem walk_guard {c : Prop} [Decidable c] {x : List Shape} {w : List Shape × Option Bytes} {r : P}
    (h : w.2 = r.map (·.2)) : (if c then (x, none) else w).2 = (if c then none else r).map (·.2) := by
  split
  · rfl
  · exact h

theorem keysWalk_readKeys (n : Nat) (d : Bytes) (acc : List Shape) (acc' : Bytes) :
    (keysWalk n d acc).2 = (readKeys n d acc').map (·.2) := by
  induction n generalizing d acc acc' with
  | zero => rfl
  | succ n ih =>
    unfold keysWalk readKeys
    exact walk_guard <| walk_guard <| ih ..

theorem entriesWalk_readEntries (n : Nat) (d : Bytes) (acc : List Shape) (acc' : Bytes) :
    (entriesWalk n d acc).2 = (readEntries n d acc').map (·.2) := by
  induction n generalizing d acc acc' with
  | zero => rfl
  | succ n ih =>
    unfold entriesWalk readEntries
    refine walk_guard <| walk_guard ?_
    cases readOptions (d.drop 38) true with
    | none => rfl
    | some q => exact ih ..

theorem addrsWalk_readAddrs (n : Nat) (d : Bytes) (acc : List Shape) (acc' : Bytes) :
    (addrsWalk n d acc).2 = (readAddrs n d acc').map (·.2) := by
  induction n generalizing d acc acc' with
  | zero => rfl
  | succ n ih =>
    unfold addrsWalk readAddrs
    cases readRouterAddress d with
    | none => rfl
    | some q => exact ih ..

/-- the walk's second component is the remainder of the reader's loop, so the two `match`es agree once their
    continuations do -/
theorem walk_none {β : Type} {w : List Shape × Option Bytes} {rd : P} (hw : w.2 = rd.map (·.2))
    {x : List Shape → Obs} {s : List Shape → Bytes → Option Obs} {k : Bytes → Bytes → Option β}
    (h : ∀ l b r, s l r = none ↔ (k b r).isSome = true) :
    (match w with | (l, none) => some (x l) | (l, some r) => s l r) = none ↔
      (match rd with | none => none | some (b, r) => k b r).isSome = true := by
  obtain ⟨l, o⟩ := w
  subst hw
  cases rd with
  | none => simp
  | some q => exact h l q.1 q.2

theorem stopHdr_none {minLen : Nat} {z : Shape} {part : Shape → Shape → Shape → Shape}
    {cont : Shape → Shape → Shape → Bytes → Nat → Option Obs} {contR : Bytes → Bytes → Nat → P}
    (hcont : ∀ D O M hb r sigT, cont D O M r sigT = none ↔ (contR hb r sigT).isSome = true) (d : Bytes) :
    stopHdr minLen z part cont d = none ↔ (withHdr minLen contR d).isSome = true := by
  unfold stopHdr withHdr
  refine guard_none ?_
  cases hd : readDestination d with
  | none => simp
  | some q =>
    obtain ⟨k, r⟩ := q
    obtain ⟨db, hdb, _⟩ := readDestination_isSub.consumed hd
    simp only [hdb]
    refine guard_none ?_
    have e : FailShape.offStage = Structs.offStage := rfl
    rw [e]
    cases Structs.offStage (beVal ((r.drop 6).take 2)) (r.drop 8) k.kc.spk with
    | none => simp
    | some q2 =>
      obtain ⟨ob, r2, sigT⟩ := q2
      simp only []
      cases readOptions r2 true with
      | none => simp
      | some q3 => exact hcont ..

theorem ls2Tail_none (D O M : Shape) (hb r : Bytes) (sigT : Nat) :
    ls2Tail D O M r sigT = none ↔ (ls2Cont hb r sigT).isSome = true := by
  unfold ls2Tail ls2Cont
  simp only []
  cases r with
  | nil => simp
  | cons nk r =>
    refine guard_none (walk_none (keysWalk_readKeys nk.toNat r [] []) fun ks kb r2 => ?_)
    cases r2 with
    | nil => simp
    | cons nl r3 =>
      refine guard_none ?_
      cases readFixed nl.toNat 40 r3 with
      | none => simp
      | some q2 =>
        obtain ⟨lb, r4⟩ := q2
        simp only []
        cases readSig r4 sigT <;> simp

theorem stopLS2_none (d : Bytes) : stopLS2 d = none ↔ (readLeaseSet2 d).isSome = true := by
  rw [readLeaseSet2_eq]
  exact stopHdr_none ls2Tail_none d

theorem metaTail_none (D O M : Shape) (hb r : Bytes) (sigT : Nat) :
    metaTail D O M r sigT = none ↔ (metaCont hb r sigT).isSome = true := by
  unfold metaTail metaCont
  simp only []
  cases r with
  | nil => simp
  | cons ne r =>
    refine guard_none (walk_none (entriesWalk_readEntries ne.toNat r [] []) fun es eb r2 => ?_)
    cases readSig r2 sigT <;> simp

theorem stopMeta_none (d : Bytes) : stopMeta d = none ↔ (readMeta d).isSome = true := by
  rw [readMeta_eq]
  exact stopHdr_none metaTail_none d

theorem stopRI_none (d : Bytes) : stopRI d = none ↔ (readRouterInfo d).isSome = true := by
  unfold stopRI readRouterInfo
  cases hd : readRouterIdentity d with
  | none => simp
  | some q =>
    obtain ⟨k, r⟩ := q
    obtain ⟨ib, hib, _⟩ := readRouterIdentity_isSub.consumed hd
    simp only [hib]
    refine guard_none ?_
    cases hr : r.drop 8 with
    | nil => simp [readAddrs, beVal, Mapping.readMapping, Mapping.accepted]
    | cons n r1 =>
      simp only [List.take_succ_cons, List.take_zero, List.drop_succ_cons, List.drop_zero]
      rw [beVal_singleton]
      refine walk_none (addrsWalk_readAddrs n.toNat r1 [] []) fun as ab r2 => ?_
      cases r2 with
      | nil => simp [Mapping.readMapping, Mapping.accepted]
      | cons p r3 =>
        simp only [List.drop_succ_cons, List.drop_zero]
        refine guard_none ?_
        cases readSig (Mapping.readMapping r3).rem (if (d.drop 384).take 1 == [5] then k.kc.spk else 0) <;> simp

end I2P.FailShape
