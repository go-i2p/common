import I2P.Crypto16
import I2P.Proofs.StructLemmas
/-! Helper lemmas for C16: splitting `eph ‖ nonce ‖ ct ‖ tag`, the characterisation of `decryptLS2` on an
assembled blob, and the two toy schemes that show the hypothesis sets of the theorems to be satisfiable. -/

namespace I2P.Crypto16
open I2P.Structs

theorem blob_split (e n c t : Bytes) (he : e.length = 32) (hn : n.length = 12) :
    (e ++ n ++ c ++ t).take 32 = e ∧ ((e ++ n ++ c ++ t).drop 32).take 12 = n ∧ (e ++ n ++ c ++ t).drop 44 = c ++ t := by
  rw [List.append_assoc, List.append_assoc]
  exact cut3_append he hn

theorem blob_length (e n c t : Bytes) (he : e.length = 32) (hn : n.length = 12) (ht : t.length = 16) :
    (e ++ n ++ c ++ t).length = 60 + c.length := by
  simp only [List.length_append, he, hn, ht]; omega

theorem blob_drop_eph (e n c t : Bytes) (he : e.length = 32) : (e ++ n ++ c ++ t).drop 32 = n ++ c ++ t := by
  rw [List.append_assoc, List.append_assoc, List.drop_left' he, List.append_assoc]

theorem blob_decompose (b : Bytes) (h : minBlob ≤ b.length) :
    ∃ e n c t, e.length = 32 ∧ n.length = 12 ∧ t.length = 16 ∧ b = e ++ n ++ c ++ t := by
  unfold minBlob at h
  refine ⟨b.take 32, (b.drop 32).take 12, (b.drop 44).take (b.length - 60), (b.drop 44).drop (b.length - 60),
    ?_, ?_, ?_, ?_⟩
  · rw [List.length_take]; omega
  · rw [List.length_take, List.length_drop]; omega
  · rw [List.length_drop, List.length_drop]; omega
  · rw [List.append_assoc, List.append_assoc, List.take_append_drop, cut3]

theorem encrypt_some {E : EncScheme} {l rp eph n blob : Bytes} :
    encryptLS2 E l rp eph n = some blob ↔
      rp.length = 32 ∧ ∃ s, E.dh eph rp = some s ∧ n.length = 12 ∧
        blob = E.pub eph ++ n ++ (E.aeadSeal (E.derive s) n l).1 ++ (E.aeadSeal (E.derive s) n l).2 := by
  unfold encryptLS2
  rw [Option.ite_none_left_eq_some, Decidable.not_not]
  refine and_congr_right fun _ => opt_match_some.trans (exists_congr fun s => and_congr_right fun _ => ?_)
  rw [Option.ite_none_left_eq_some, Decidable.not_not, Option.some.injEq]
  exact and_congr_right fun _ => eq_comm

theorem decrypt_parts (E : EncScheme) (cookie e n c t sk : Bytes) (hc : cookie.length = 32) (hsk : sk.length = 32)
    (he : e.length = 32) (hn : n.length = 12) (ht : t.length = 16) :
    decryptLS2 E cookie (e ++ n ++ c ++ t) sk =
      if ephCanonical e then
        (E.dh sk e).bind fun s => (E.aeadOpen (E.derive s) n c t).bind fun p =>
          (readLeaseSet2 p).map Prod.fst
      else none := by
  obtain ⟨h1, h2, h3⟩ := blob_split e n c t he hn
  have h5 := blob_length e n c t he hn ht
  unfold decryptLS2
  rw [if_neg (by omega), if_neg (by omega), if_neg (by unfold minBlob; omega), h1, h2, h3]
  cases ephCanonical e with
  | false => rfl
  | true =>
    simp only [Bool.not_true, Bool.false_eq_true, if_false, if_true]
    cases E.dh sk e with
    | none => rfl
    | some s =>
      simp only [Option.bind_some]
      rw [if_neg (by rw [List.length_append]; omega), List.length_append, ht, Nat.add_sub_cancel, List.take_left' rfl,
        List.drop_left' rfl]
      cases E.aeadOpen (E.derive s) n c t with
      | none => rfl
      | some p =>
        simp only [Option.bind_some]
        cases readLeaseSet2 p <;> rfl

theorem decrypt_sealed (E : EncScheme) (aead_correct : AeadCorrect E) {l : Bytes}
    (hl : ∃ b, readLeaseSet2 l = some (b, [])) (cookie e n sk s : Bytes)
    (hc : cookie.length = 32) (hsk : sk.length = 32) (he : e.length = 32) (hn : n.length = 12)
    (ht : (E.aeadSeal (E.derive s) n l).2.length = 16) (hcan : ephCanonical e = true) (hd : E.dh sk e = some s) :
    decryptLS2 E cookie (e ++ n ++ (E.aeadSeal (E.derive s) n l).1 ++ (E.aeadSeal (E.derive s) n l).2) sk = some l := by
  obtain ⟨b, hb⟩ := hl
  rw [decrypt_parts E cookie e n _ _ sk hc hsk he hn ht, if_pos hcan, hd, Option.bind_some, aead_correct,
    Option.bind_some, hb, Option.map_some, ← readLeaseSet2_framed.consumed' hb, List.append_nil]

theorem decrypt_wrong_secret (E : EncScheme) (derive_inj : DeriveInj E) {l s n : Bytes}
    (aead_wrong_key : AeadWrongKeyAt E (E.derive s) n l) (cookie e sk : Bytes)
    (hc : cookie.length = 32) (hsk : sk.length = 32) (he : e.length = 32) (hn : n.length = 12)
    (ht : (E.aeadSeal (E.derive s) n l).2.length = 16) (hd : E.dh sk e ≠ some s) :
    decryptLS2 E cookie (e ++ n ++ (E.aeadSeal (E.derive s) n l).1 ++ (E.aeadSeal (E.derive s) n l).2) sk = none := by
  rw [decrypt_parts E cookie e n _ _ sk hc hsk he hn ht]
  split
  · cases hd' : E.dh sk e with
    | none => rfl
    | some s2 =>
      have hk : E.derive s2 ≠ E.derive s := fun h => hd (by rw [hd', derive_inj _ _ h])
      rw [Option.bind_some, aead_wrong_key _ hk]; rfl
  · rfl

/-- the same ephemeral key gives the session key, under which `aead_auth` lets nothing open but the sealed triple
    (a blob too short to have the four parts is refused before that) -/
theorem decrypt_same_eph (E : EncScheme) {l s n : Bytes} (aead_auth : AeadAuthAt E (E.derive s) n l)
    (cookie e sk blob' : Bytes) (hc : cookie.length = 32) (hsk : sk.length = 32) (hn : n.length = 12)
    (hd : E.dh sk e = some s) (hsame : blob'.take 32 = e)
    (hne : blob' ≠ e ++ n ++ (E.aeadSeal (E.derive s) n l).1 ++ (E.aeadSeal (E.derive s) n l).2) :
    decryptLS2 E cookie blob' sk = none := by
  by_cases hlen : blob'.length < minBlob
  · unfold decryptLS2
    rw [if_neg (by omega), if_neg (by omega), if_pos hlen]
  obtain ⟨e', n', c', t', he', hn', ht', rfl⟩ := blob_decompose blob' (by omega)
  obtain rfl : e' = e := (blob_split e' n' c' t' he' hn').1.symm.trans hsame
  rw [decrypt_parts E cookie e' n' c' t' sk hc hsk he' hn' ht']
  split
  · rw [hd, Option.bind_some]
    cases ho : E.aeadOpen (E.derive s) n' c' t' with
    | none => rfl
    | some p =>
      obtain ⟨rfl, rfl, rfl⟩ := aead_auth n' c' t' (by rw [ho]; rfl)
      exact absurd rfl hne
  · rfl

theorem decrypt_not_canonical (E : EncScheme) (cookie blob sk : Bytes) (h : ephCanonical (blob.take 32) = false) :
    decryptLS2 E cookie blob sk = none := by
  simp only [decryptLS2, h, Bool.not_false, if_true, ite_self]

theorem createBlinded_some {B : BlindScheme} {d d' : Dest} {secret : Bytes} {s off : Int}
    (h : createBlinded B d secret s off = some d') :
    (d.sigType = 7 ∨ d.sigType = 11) ∧ 32 ≤ secret.length ∧ d.sigKey.length = 32 ∧
      ∃ date k, utcDay s off = some date ∧ B.blind d.sigKey (B.factor secret date) = some k ∧
        d' = { d with sigKey := k } := by
  revert h
  fun_cases createBlinded B d secret s off <;> intro h <;> cases h
  rename_i ht hs date hu hl k hb
  exact ⟨by omega, by omega, by omega, date, k, hu, hb, rfl⟩

theorem ed25519KeyOf_some {d : Dest} (ht : d.sigType = 7 ∨ d.sigType = 11) (hl : d.sigKey.length = 32) :
    ed25519KeyOf d = some d.sigKey := by
  unfold ed25519KeyOf; rw [if_neg (by omega), if_neg (by omega)]

/-- toy scheme for the laws used by `roundtrip`, `layout`, `eph_malleable` -/
def toyLaws : EncScheme where
  dh := fun _ _ => some []
  pub := fun _ => List.replicate 32 0
  derive := id
  aeadSeal := fun _ _ p => (p, List.replicate 16 0)
  aeadOpen := fun _ _ c _ => some c

/-- toy scheme for the idealisations used by `tamper_partial`: a commutative, injective "key agreement"
    (bytewise addition) and an AEAD that opens nothing but the one triple sealed in the session `(k0, n0, l0)` -/
def toyIdeal (k0 n0 l0 : Bytes) : EncScheme where
  dh := fun a b => some (List.zipWith (· + ·) a b)
  pub := id
  derive := id
  aeadSeal := fun _ _ p => (p, List.replicate 16 0)
  aeadOpen := fun k n c t => if k = k0 ∧ n = n0 ∧ c = l0 ∧ t = List.replicate 16 0 then some l0 else none

theorem zipAdd_inj : ∀ (a e e' : Bytes), e.length = a.length → e'.length = a.length →
    List.zipWith (· + ·) a e = List.zipWith (· + ·) a e' → e = e'
  | [], e, e', h, h', _ => by
    have : e = [] := List.length_eq_zero_iff.mp h
    have : e' = [] := List.length_eq_zero_iff.mp h'
    simp [*]
  | a :: as, [], _, h, _, _ => by simp at h
  | a :: as, _ :: _, [], _, h', _ => by simp at h'
  | a :: as, x :: xs, y :: ys, h, h', hz => by
    simp only [List.zipWith_cons_cons, List.cons.injEq] at hz
    have hx : x = y := (UInt8.add_right_inj a).mp hz.1
    have := zipAdd_inj as xs ys (by simpa using h) (by simpa using h') hz.2
    rw [hx, this]

end I2P.Crypto16
