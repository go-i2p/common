import I2P.Checked
import I2P.Proofs.GoAttr
/-! How a checked (`Go`) program of `I2P/Checked*.lean` is evaluated in a proof.

    Every lemma about a mirror says: the program is `.ok` of a value whose slices have the `data` the pure model
    computes.  The proofs evaluate the program with the `simp` set `go`: a primitive whose Go bounds check holds is
    replaced by a TOTAL operation (`Sl.take`, `Sl.drop`, `Sl.zeros`, `Sl.wr`) whose `data` and `len` are known without
    side condition; `go_simp` / `bounds` (end of the file) discharge the bounds conditions by `omega`.

    A `go` lemma is not proved by bare `rfl`, even where `rfl` would do (`Eq.trans rfl rfl` instead): `simp` applies a
    `rfl` lemma as a definitional step, which carries no proof.  When the head of a `>>=` is rewritten by such steps
    only, `simp` takes the hypothesis of `Go.bind_congr` as unchanged, drops the rule and enters the continuation by
    ordinary congruence, which is what the rule is there to prevent.  And the kernel would have to check every such
    step by unfolding.

    A mirror is named after its Go function plus a letter: `…S` is an exported reader (`ReadX`, `NewX`) on a slice
    `Sl`; `…C` is any other function of the Go code, and also the entry point that runs a reader on the caller's
    buffer, a slice with `cap = len` (`readDateC = onBytes readDateS`); `readIntegerC` is on slices, its entry point
    is `readIntegerB`.

    Lemma names, for a mirror `fC` or `fS`: `fC_eq` is a closed form `fC … = .ok (…)`; `fC_spec` is
    `∃ r, fC … = .ok r ∧ view r = pure model`, for a result that holds slices and is known only through its `data`;
    `p_ok` is a primitive `p` inside its bounds (so are `mk_eq`, `beUint16_eq`/`32`/`64`, `setAt_eq`), and
    `fC_ok` for an `fC : Go Unit` says `fC … = .ok ()`. -/

namespace I2P.Checked

@[simp] theorem bind_ok {α β} (a : α) (f : α → Go β) : (Except.ok a >>= f) = f a := Eq.trans rfl rfl
@[simp] theorem bind_error {α β} (e : Panic) (f : α → Go β) : ((Except.error e : Go α) >>= f) = .error e :=
  Eq.trans rfl rfl
@[simp] theorem pure_eq_ok {α} (a : α) : (pure a : Go α) = .ok a := Eq.trans rfl rfl

/-- `simp` with this as a `congr` rule simplifies `c` in `c >>= f` and never the body of `f`: nothing is known
    about the bound variable there, so every bounds check in it would be tried and fail; once `c` is `.ok a`,
    `bind_ok` feeds `a` in and the body is visited then -/
theorem Go.bind_congr {α β : Type} {c c' : Go α} {f : α → Go β} (h : c = c') : (c >>= f) = (c' >>= f) := by
  rw [h]

theorem ok_iff {α : Type} {a : α} {Q : α → Prop} : (∃ r, (Except.ok a : Go α) = .ok r ∧ Q r) ↔ Q a := by
  simp

theorem bind_eq_ok {α β : Type} {c : Go α} {f : α → Go β} {b : β} :
    (c >>= f) = .ok b ↔ ∃ a, c = .ok a ∧ f a = .ok b := by
  cases c <;> simp

theorem refines_cases {α β : Type} {f : α → β} {c : Go (Option α)} {p : Option β}
    (h : ∃ r, c = .ok r ∧ r.map f = p) : (c = .ok none ∧ p = none) ∨ ∃ a, c = .ok (some a) ∧ p = some (f a) := by
  obtain ⟨r, hr, rfl⟩ := h
  cases r with
  | none => exact .inl ⟨hr, rfl⟩
  | some a => exact .inr ⟨a, hr, rfl⟩

theorem bind_spec {α β : Type} {c : Go α} {f : α → Go β} {P : α → Prop} {Q : β → Prop}
    (hc : ∃ a, c = .ok a ∧ P a) (hf : ∀ a, P a → ∃ r, f a = .ok r ∧ Q r) : ∃ r, (c >>= f) = .ok r ∧ Q r := by
  obtain ⟨a, rfl, ha⟩ := hc
  exact hf a ha

/-- `h` is how "the parsed value re-serialises to the pure model's bytes" is stated; `f` is `Bytes()`, which can
    fail -/
theorem refines_bytes_cases {α β γ : Type} {f : α → Option β} {r : Option (α × γ)} {p : Option (β × γ)}
    (h : r.map (fun x => (f x.1, x.2)) = p.map (fun q => (some q.1, q.2))) :
    (r = none ∧ p = none) ∨ ∃ a b c, r = some (a, c) ∧ f a = some b ∧ p = some (b, c) := by
  rcases r with _ | ⟨a, c⟩ <;> rcases p with _ | ⟨b, c'⟩ <;> simp at h
  · exact .inl ⟨rfl, rfl⟩
  · exact .inr ⟨a, b, c, rfl, h.1, by rw [h.2]⟩

theorem write_eq {a : Bytes} {off : Nat} {v : Bytes} (h : off + v.length ≤ a.length) :
    write a off v = a.take off ++ v ++ a.drop (off + v.length) := by
  simp only [write]
  rw [List.take_of_length_le (l := v) (by omega)]

theorem write_append3 (A D Z : Bytes) (lo : Nat) (v : Bytes) (h : lo + v.length ≤ D.length) :
    write (A ++ D ++ Z) (A.length + lo) v = A ++ write D lo v ++ Z := by
  rw [write_eq (by simp only [List.length_append]; omega), write_eq h, List.append_assoc A, List.take_length_add_append,
    List.take_append_of_le_length (by omega), Nat.add_assoc, List.drop_length_add_append, List.drop_append_of_le_length h]
  simp only [List.append_assoc]

theorem write_full {a v : Bytes} (h : v.length = a.length) : write a 0 v = v := by
  rw [write_eq (by omega)]; simp [h]

theorem write_tail {a v : Bytes} {off : Nat} (h : off + v.length = a.length) : write a off v = a.take off ++ v := by
  rw [write_eq (by omega)]; simp [h]

theorem write_write_full {a v1 v2 : Bytes} (h : v1.length + v2.length = a.length) :
    write (write a 0 v1) v1.length v2 = v1 ++ v2 := by
  rw [write_tail (by rw [write_length]; omega), write_eq (by omega)]
  simp

theorem write_nil (a : Bytes) (off : Nat) : write a off [] = a := by
  simp [write]

@[simp] theorem Sl.data_length (s : Sl) : s.data.length = s.len := by
  have := s.wf
  simp only [Sl.data, List.length_take, List.length_drop]; omega

@[simp] theorem Sl.ofBytes_data (b : Bytes) : (Sl.ofBytes b).data = b := by simp [Sl.ofBytes, Sl.data]
@[simp] theorem Sl.ofBytes_len (b : Bytes) : (Sl.ofBytes b).len = b.length := Eq.trans rfl rfl
@[simp] theorem Sl.nil_data : Sl.nil.data = [] := Eq.trans rfl rfl
@[simp] theorem Sl.nil_len : Sl.nil.len = 0 := Eq.trans rfl rfl
@[simp] theorem Sl.ilen_eq (s : Sl) : s.ilen = (s.len : Int) := Eq.trans rfl rfl

theorem Sl.len_le_cap (s : Sl) : s.len ≤ s.cap := by have := s.wf; simp only [Sl.cap]; omega

theorem Sl.arr_split (s : Sl) : s.arr = s.arr.take s.off ++ s.data ++ s.arr.drop (s.off + s.len) := by
  simp only [Sl.data]
  rw [List.append_assoc, ← List.drop_drop, List.take_append_drop, List.take_append_drop]

/-- `s[:n]` and `s[n:]` clamped to the visible bytes, hence total; the bounds are needed once, where `slice` is
    replaced by them -/
def Sl.take (s : Sl) (n : Nat) : Sl := ⟨s.arr, s.off, min n s.len, by have := s.wf; omega⟩
def Sl.drop (s : Sl) (n : Nat) : Sl := ⟨s.arr, s.off + min n s.len, s.len - n, by have := s.wf; omega⟩

@[simp] theorem Sl.take_len (s : Sl) (n : Nat) : (s.take n).len = min n s.len := Eq.trans rfl rfl
@[simp] theorem Sl.drop_len (s : Sl) (n : Nat) : (s.drop n).len = s.len - n := Eq.trans rfl rfl

@[simp] theorem Sl.take_data (s : Sl) (n : Nat) : (s.take n).data = s.data.take n := by
  simp only [Sl.take, Sl.data, List.take_take]

@[simp] theorem Sl.drop_data (s : Sl) (n : Nat) : (s.drop n).data = s.data.drop n := by
  simp only [Sl.drop, Sl.data, List.drop_take, List.drop_drop]
  by_cases h : n ≤ s.len
  · rw [Nat.min_eq_left h]
  · rw [show s.len - n = 0 by omega, List.take_zero, List.take_zero]

@[simp] theorem Sl.drop_drop (s : Sl) (a b : Nat) : (s.drop a).drop b = s.drop (a + b) := by
  simp only [Sl.drop, Sl.mk.injEq, true_and]; omega

@[simp] theorem Sl.drop_zero (s : Sl) : s.drop 0 = s := by
  simp only [Sl.drop, Nat.zero_le, Nat.min_eq_left, Nat.add_zero, Nat.sub_zero]

theorem Sl.take_of_len_le {s : Sl} {n : Nat} (h : s.len ≤ n) : s.take n = s := by
  simp only [Sl.take, Nat.min_eq_right h]

@[simp] theorem Sl.take_take (s : Sl) (a b : Nat) : (s.take a).take b = s.take (min b a) := by
  simp only [Sl.take, Nat.min_assoc]

theorem Sl.len_of_data_nil {s : Sl} (h : s.data = []) : s.len = 0 := by
  rw [← s.data_length, h, List.length_nil]

theorem Sl.len_of_data_cons {s : Sl} {b : UInt8} {t : Bytes} (h : s.data = b :: t) : s.len = t.length + 1 := by
  rw [← s.data_length, h, List.length_cons]

/-- total version of `s[lo:hi]`, used to state results -/
def Sl.sub (s : Sl) (lo hi : Nat) : Sl :=
  if h : lo ≤ hi ∧ hi ≤ s.cap then
    ⟨s.arr, s.off + lo, hi - lo, by have := s.wf; simp only [Sl.cap] at h; omega⟩
  else s

/-- `s[n:]` as a total function -/
def Sl.adv (s : Sl) (n : Nat) : Sl := s.sub n s.len

theorem Sl.sub_eq {s : Sl} {lo hi : Nat} (h : lo ≤ hi ∧ hi ≤ s.len) : s.sub lo hi = (s.drop lo).take (hi - lo) := by
  have := s.len_le_cap
  simp only [Sl.sub, dif_pos (show lo ≤ hi ∧ hi ≤ s.cap by omega), Sl.take, Sl.drop, Sl.mk.injEq, true_and]; omega

theorem Sl.adv_eq {s : Sl} {n : Nat} (h : n ≤ s.len) : s.adv n = s.drop n := by
  rw [Sl.adv, Sl.sub_eq (by omega), Sl.take_of_len_le (by simp only [Sl.drop_len]; omega)]

/-- the zero-filled result of `make([]byte, n)` -/
def Sl.zeros (n : Nat) : Sl := ⟨List.replicate n 0, 0, n, by simp⟩

@[simp] theorem Sl.zeros_len (n : Nat) : (Sl.zeros n).len = n := Eq.trans rfl rfl
@[simp] theorem Sl.zeros_data (n : Nat) : (Sl.zeros n).data = List.replicate n 0 := by simp [Sl.zeros, Sl.data]
@[simp] theorem Sl.zeros_cap (n : Nat) : (Sl.zeros n).cap = n := by simp [Sl.zeros, Sl.cap]

/-- total version of "`p` after `copy(p[lo:…], v)`" -/
def Sl.wr (p : Sl) (lo : Nat) (v : Bytes) : Sl :=
  ⟨write p.arr (p.off + lo) v, p.off, p.len, by rw [write_length]; exact p.wf⟩

@[simp] theorem Sl.wr_len (p : Sl) (lo : Nat) (v : Bytes) : (p.wr lo v).len = p.len := Eq.trans rfl rfl

theorem Sl.wr_data {p : Sl} {lo : Nat} {v : Bytes} (h : lo + v.length ≤ p.len) :
    (p.wr lo v).data = write p.data lo v := by
  have hA : (p.arr.take p.off).length = p.off := by have := p.wf; rw [List.length_take]; omega
  have := write_append3 (p.arr.take p.off) p.data (p.arr.drop (p.off + p.len)) lo v (by rw [p.data_length]; exact h)
  rw [← p.arr_split, hA] at this
  show ((write p.arr (p.off + lo) v).drop p.off).take p.len = _
  rw [this, List.append_assoc, List.drop_left' hA, List.take_left' (by rw [write_length, p.data_length])]

theorem Sl.wr_nil (p : Sl) (lo : Nat) : p.wr lo [] = p := by
  simp only [Sl.wr, write_nil]

@[simp] theorem copy_len (dst src : Sl) : (copy dst src).len = dst.len := Eq.trans rfl rfl

theorem copy_eq_wr (dst src : Sl) : copy dst src = dst.wr 0 (src.data.take dst.len) := rfl

theorem copy_data (dst src : Sl) : (copy dst src).data = write dst.data 0 (src.data.take dst.len) := by
  rw [copy_eq_wr, Sl.wr_data (by rw [List.length_take]; omega)]

theorem copy_data_of_le {dst src : Sl} (h : dst.len ≤ src.len) : (copy dst src).data = src.data.take dst.len := by
  rw [copy_data]; exact write_full (by simp; omega)

/-- `var key [n]byte; copy(key[:], data)` with `len(data) = n` -/
theorem copy_whole {d : Sl} {n : Nat} (h : d.len = n) : (copy (Sl.zeros n) d).data = d.data := by
  rw [copy_data_of_le (by rw [Sl.zeros_len, h]; exact Nat.le_refl n), List.take_of_length_le (by simp; omega)]

theorem zeros_wr_data {N : Nat} {v : Bytes} (h : v.length = N) : ((Sl.zeros N).wr 0 v).data = v := by
  rw [Sl.wr_data (by simp; omega), Sl.zeros_data, write_full (by simp; omega)]

theorem zeros_wr_wr_data {N p : Nat} {v1 v2 : Bytes} (h1 : v1.length = p) (h2 : p + v2.length = N) :
    (((Sl.zeros N).wr 0 v1).wr p v2).data = v1 ++ v2 := by
  rw [Sl.wr_data (by simp; omega), Sl.wr_data (by simp; omega), Sl.zeros_data, ← h1]
  exact write_write_full (by simp; omega)

/-! ### the primitives inside their bounds: ONE hypothesis each, so that one `omega` discharges it -/

theorem slice_ok {s : Sl} {lo hi : Int} (h : 0 ≤ lo ∧ lo ≤ hi ∧ hi ≤ s.len) :
    slice s lo hi = .ok ((s.drop lo.toNat).take (hi - lo).toNat) := by
  have := s.len_le_cap
  have hc : 0 ≤ lo ∧ lo ≤ hi ∧ hi ≤ s.cap := by omega
  simp only [slice, dif_pos hc, Sl.take, Sl.drop, Except.ok.injEq, Sl.mk.injEq, true_and]
  omega

theorem sliceTo_ok {s : Sl} {hi : Int} (h : 0 ≤ hi ∧ hi ≤ s.len) : sliceTo s hi = .ok (s.take hi.toNat) := by
  rw [sliceTo, slice_ok (by omega)]; simp

theorem sliceFrom_ok {s : Sl} {lo : Int} (h : 0 ≤ lo ∧ lo ≤ s.len) : sliceFrom s lo = .ok (s.drop lo.toNat) := by
  rw [sliceFrom, slice_ok (by omega), Sl.take_of_len_le (by simp only [Sl.drop_len]; omega)]

theorem slice_err {s : Sl} {lo hi : Int} (h : ¬ (0 ≤ lo ∧ lo ≤ hi ∧ hi ≤ s.cap)) : slice s lo hi = .error .sliceOOB := by
  rw [slice, dif_neg h]

/-- a slice expression that did not panic was inside the CAPACITY (not necessarily the length) -/
theorem slice_ok_inv {s t : Sl} {lo hi : Int} (h : slice s lo hi = .ok t) :
    0 ≤ lo ∧ lo ≤ hi ∧ hi ≤ s.cap ∧ t.len = (hi - lo).toNat := by
  unfold slice at h
  split at h
  · rename_i hc
    cases h
    exact ⟨hc.1, hc.2.1, hc.2.2, rfl⟩
  · cases h

theorem mk_eq {n : Int} (h : 0 ≤ n) : mk n = .ok (Sl.zeros n.toNat) := by simp [mk, h, Sl.zeros]

/-- `make` with a length that is a `Nat` (a literal, or the cast of a length): no side condition -/
theorem mk_natCast (n : Nat) : mk (n : Int) = .ok (Sl.zeros n) := by
  rw [mk_eq (Int.natCast_nonneg n), Int.toNat_natCast]
theorem mk_lit (n : Nat) : mk (no_index (OfNat.ofNat n)) = .ok (Sl.zeros (OfNat.ofNat n)) := mk_natCast n

theorem index_ok {s : Sl} {i : Int} (h : 0 ≤ i ∧ i < s.len) : index s i = .ok (s.data.getD i.toNat 0) := by
  simp [index, h]

theorem beUint16_eq {b : Sl} (h : 2 ≤ b.len) : beUint16 b = .ok (beVal (b.data.take 2)) := by
  simp [beUint16, index_ok (s := b) (i := 1) (by omega)]
theorem beUint32_eq {b : Sl} (h : 4 ≤ b.len) : beUint32 b = .ok (beVal (b.data.take 4)) := by
  simp [beUint32, index_ok (s := b) (i := 3) (by omega)]
theorem beUint64_eq {b : Sl} (h : 8 ≤ b.len) : beUint64 b = .ok (beVal (b.data.take 8)) := by
  simp [beUint64, index_ok (s := b) (i := 7) (by omega)]

theorem copyAt_ok {p : Sl} {lo hi : Int} {src : Sl} (h : 0 ≤ lo ∧ lo ≤ hi ∧ hi ≤ p.len) :
    copyAt p lo hi src = .ok (p.wr lo.toNat (src.data.take (hi - lo).toNat)) := by
  simp only [copyAt, slice_ok h, bind_ok, Sl.wr, Sl.take, Sl.drop, Except.ok.injEq, Sl.mk.injEq, and_true]
  congr 2 <;> omega

theorem copyFrom_ok {p : Sl} {lo : Int} {src : Sl} (h : 0 ≤ lo ∧ lo ≤ p.len) :
    copyFrom p lo src = .ok (p.wr lo.toNat (src.data.take (p.len - lo.toNat))) := by
  rw [copyFrom, copyAt_ok (by omega)]; congr 3; omega

theorem copyTo_ok {p : Sl} {hi : Int} {src : Sl} (h : 0 ≤ hi ∧ hi ≤ p.len) :
    copyTo p hi src = .ok (p.wr 0 (src.data.take hi.toNat)) := by
  rw [copyTo, copyAt_ok (by omega)]; simp

theorem setAt_eq {α : Type} {l : List α} {i : Nat} {v : α} (h : i < l.length) :
    setAt l (i : Int) v = .ok (l.set i v) := by
  have : (0 : Int) ≤ i ∧ (i : Int) < l.length := by omega
  simp [setAt, this]

/-- `s[:]` -/
theorem slice_full (s : Sl) : slice s 0 (s.len : Int) = .ok s := by
  rw [slice_ok (by omega), Int.sub_zero, Int.toNat_natCast, Int.toNat_zero, Sl.drop_zero,
    Sl.take_of_len_le (Nat.le_refl _)]

theorem getD_drop (l : Bytes) (n i : Nat) : (l.drop n).getD i 0 = l.getD (n + i) 0 := by
  simp only [List.getD_eq_getElem?_getD, List.getElem?_drop]

theorem head_drop {s : Sl} {b : UInt8} {t : Bytes} (h : s.data = b :: t) :
    s.len = t.length + 1 ∧ index s 0 = .ok b ∧ sliceFrom s 1 = .ok (s.drop 1) ∧ (s.drop 1).data = t := by
  have hl := Sl.len_of_data_cons h
  exact ⟨hl, by rw [index_ok (by omega), h]; rfl, by rw [sliceFrom_ok (by omega)]; rfl, by rw [Sl.drop_data, h]; rfl⟩

theorem take_drop_ok {s : Sl} {n : Nat} (h : n ≤ s.len) :
    sliceTo s n = .ok (s.take n) ∧ sliceFrom s n = .ok (s.drop n) ∧ (s.take n).len = n :=
  ⟨by rw [sliceTo_ok (by omega), Int.toNat_natCast], by rw [sliceFrom_ok (by omega), Int.toNat_natCast],
    Nat.min_eq_left h⟩

/-- window number `i` of width `w`, as a loop over fixed-size records cuts it -/
theorem slice_window {s : Sl} {i w : Nat} (h : (i + 1) * w ≤ s.len) :
    slice s ((i * w : Nat) : Int) (((i : Int) + 1) * (w : Int)) = .ok ((s.drop (i * w)).take w) ∧
      ((s.drop (i * w)).take w).len = w := by
  have e : ((i : Int) + 1) * (w : Int) = ((i * w + w : Nat) : Int) := by
    rw [Int.add_mul, Int.one_mul, Int.natCast_add, Int.natCast_mul]
  rw [Nat.succ_mul] at h
  rw [e, slice_ok ⟨Int.natCast_nonneg _, Int.ofNat_le.mpr (Nat.le_add_right _ _), Int.ofNat_le.mpr h⟩,
    Int.toNat_natCast, Int.toNat_sub, Nat.add_sub_cancel_left]
  exact ⟨rfl, Nat.min_eq_left (Nat.le_sub_of_add_le' h)⟩

/-! ### a length compared with a literal: the comparison in `Int` is the one in `Nat`
    (`Int.ofNat_lt`, `Int.ofNat_le`, `Int.natCast_inj` do this when both sides are casts) -/

theorem natCast_lt_lit {a n : Nat} : (a : Int) < (no_index (OfNat.ofNat n)) ↔ a < OfNat.ofNat n := Int.ofNat_lt
theorem natCast_le_lit {a n : Nat} : (a : Int) ≤ (no_index (OfNat.ofNat n)) ↔ a ≤ OfNat.ofNat n := Int.ofNat_le
theorem lit_lt_natCast {a n : Nat} : (no_index (OfNat.ofNat n) : Int) < (a : Int) ↔ OfNat.ofNat n < a := Int.ofNat_lt
theorem lit_le_natCast {a n : Nat} : (no_index (OfNat.ofNat n) : Int) ≤ (a : Int) ↔ OfNat.ofNat n ≤ a := Int.ofNat_le
theorem natCast_eq_lit {a n : Nat} : (a : Int) = (no_index (OfNat.ofNat n)) ↔ a = OfNat.ofNat n := Int.ofNat_inj
theorem toNat_natCast_sub_lit (a n : Nat) : ((a : Int) - (no_index (OfNat.ofNat n))).toNat = a - OfNat.ofNat n :=
  Int.toNat_sub a n
theorem toNat_lit_sub_natCast (a n : Nat) : ((no_index (OfNat.ofNat n) : Int) - (a : Int)).toNat = OfNat.ofNat n - a :=
  Int.toNat_sub n a

/-! a length times a literal: the cast moves outward, so that the comparison lemmas above apply -/
theorem natCast_mul_lit (a n : Nat) : (a : Int) * (no_index (OfNat.ofNat n)) = ((a * OfNat.ofNat n : Nat) : Int) :=
  (Int.natCast_mul a n).symm

@[simp] theorem vRem_none {α : Type} : vRem (none : Option (α × Sl)) = none := Eq.trans rfl rfl
@[simp] theorem vRem_some {α : Type} (a : α) (s : Sl) : vRem (some (a, s)) = some (a, s.data) := Eq.trans rfl rfl

theorem onBytes_of_spec {α : Type} {f : Sl → Go (Option (α × Sl))} {g : Bytes → Option (α × Bytes)}
    (h : ∀ s, ∃ r, f s = .ok r ∧ vRem r = g s.data) (w : Bytes) : onBytes f w = .ok (g w) := by
  obtain ⟨r, hr, hv⟩ := h (.ofBytes w)
  simp only [onBytes, hr, bind_ok, pure_eq_ok, hv, Sl.ofBytes_data]

theorem onBytes_ok {α : Type} {f : Sl → Go (Option (α × Sl))} {w : Bytes} {r : Option (α × Sl)}
    (h : f (.ofBytes w) = .ok r) : onBytes f w = .ok (vRem r) := by
  simp only [onBytes, h, bind_ok, pure_eq_ok]

theorem onBytes_error {α : Type} {f : Sl → Go (Option (α × Sl))} {w : Bytes} {e : Panic}
    (h : f (.ofBytes w) = .error e) : onBytes f w = .error e := by
  simp only [onBytes, h, bind_error]

attribute [go] bind_ok bind_error pure_eq_ok ok_iff
  Sl.ilen_eq Int.ofNat_lt Int.ofNat_le Int.natCast_inj gt_iff_lt ge_iff_le ne_eq
  Int.cast_ofNat_Int Int.toNat_natCast Int.reduceToNat Int.reduceAdd Int.reduceSub Int.reduceMul Int.sub_zero
  mk_eq slice_ok sliceTo_ok sliceFrom_ok index_ok beUint16_eq beUint32_eq beUint64_eq copyTo_ok copyFrom_ok setAt_eq slice_full
  Sl.take_data Sl.drop_data Sl.take_len Sl.drop_len Sl.drop_drop Sl.drop_zero Sl.take_take copy_data_of_le copy_len
  Sl.zeros_len Sl.zeros_data Sl.wr_len Sl.data_length Sl.ofBytes_data Sl.ofBytes_len Sl.nil_data Sl.nil_len
  vRem_none vRem_some Option.map_none Option.map_some
  List.take_take List.drop_drop List.drop_zero List.getD_cons_zero getD_drop List.drop_succ_cons List.length_take List.length_drop Nat.min_self Nat.reduceAdd Nat.reduceSub
  ite_self not_true_eq_false not_false_eq_true Bool.not_true Bool.not_false Bool.false_eq_true decide_true decide_false
  or_self or_false false_or or_true true_or and_self and_true true_and and_false false_and
  Int.reduceLT Int.reduceLE Int.reduceEq Nat.reduceLT Nat.reduceLeDiff Nat.reduceEqDiff Nat.lt_irrefl Nat.le_refl
attribute [go ↓] reduceIte
attribute [go low] natCast_lt_lit natCast_le_lit lit_lt_natCast lit_le_natCast natCast_eq_lit natCast_mul_lit
attribute [go] toNat_natCast_sub_lit toNat_lit_sub_natCast Int.toNat_sub
attribute [go high] mk_natCast mk_lit

/-! A fixed layout under ONE length hypothesis `h : N ≤ s.len`: with `le_len h`, `le_len_sub h`, `lt_len_sub h` in the
    simp set, the bounds condition of every cut (`a ≤ s.len - b` for literals `a`, `b`) becomes a comparison of
    literals, which `go` evaluates. -/

theorem le_len {N L a : Nat} (h : N ≤ L) (ha : a ≤ N) : a ≤ L := Nat.le_trans ha h
theorem le_len_sub {N L a b : Nat} (h : N ≤ L) (hab : a + b ≤ N) : a ≤ L - b :=
  Nat.le_sub_of_add_le (Nat.le_trans hab h)
theorem lt_len_sub {N L a b : Nat} (h : N ≤ L) (hab : a + b < N) : a < L - b :=
  Nat.lt_sub_of_add_lt (Nat.lt_of_lt_of_le hab h)

/-- closes the bounds condition of a primitive: the lengths of `take`, `drop`, `copy`, `make` are computed, what
    is left is linear arithmetic over the lengths and the guards in the context -/
macro "bounds" : tactic =>
  `(tactic| ((try simp only [Sl.take_len, Sl.drop_len, copy_len, Sl.zeros_len, Sl.wr_len, Sl.ofBytes_len, Sl.nil_len, Sl.ilen_eq,
      Sl.data_length,
      List.length_take, List.length_drop, List.length_append, List.length_replicate]); omega))

/-- evaluates ONE function body with the `go` lemmas, `bounds` proving the bounds conditions.  `Go.bind_congr` has to
    be a local `congr` rule: the calling file puts `attribute [local congr] Go.bind_congr` after its `namespace` line.
    With a tactic as discharger `simp` resets its cache under every binder, so on a goal that also carries an unfolded
    pure model (nested `if`/`let`) the call does not return: there the stage lemmas are unconditional and
    `simp only [go, …]` is the call.  `Go.bind_congr` only protects the continuation of a `>>=`
    whose head does get rewritten, not the program below a sub-reader for which the call has no equation or below an
    undecided `if`/`match`.  So decide the guards and take the sub-readers' results apart first, and give both to the
    call: one call per leaf of the program. -/
macro "go_simp" "[" ts:Lean.Parser.Tactic.simpLemma,* "]" : tactic =>
  `(tactic| simp (disch := bounds) only [go, $ts,*])

end I2P.Checked
