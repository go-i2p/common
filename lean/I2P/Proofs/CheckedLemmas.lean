import I2P.Proofs.CheckedCore
import I2P.Proofs.DataLemmas
import I2P.Proofs.KacLemmas
/-! The checked mirrors of `I2P/Checked.lean` up to Lease2, each evaluated against its pure model: it never panics
    and returns what the pure model returns.  A leaf function (one body, slices) is evaluated by `go_simp` after a
    case split on its guards; a function that calls others by `simp only [go, …]` with the callees' lemmas, one call
    per leaf of the program (`Proofs/CheckedCore.lean` says why). -/

namespace I2P.Checked
open I2P.Spec I2P.Kac
attribute [local congr] Go.bind_congr

theorem readIntegerC_eq (s : Sl) (size : Int) :
    readIntegerC s size = .ok (if size ≤ 0 ∨ size > 8 then (none, s)
      else if (s.len : Int) < size then (some s, Sl.nil)
      else (some (s.take size.toNat), s.drop size.toNat)) := by
  unfold readIntegerC
  by_cases h1 : size ≤ 0 ∨ size > 8
  · simp only [go, h1]
  by_cases h2 : (s.len : Int) < size
  · simp only [go, h1, h2]
  · simp only [go, h1, h2, sliceTo_ok (s := s) (hi := size) (by omega), sliceFrom_ok (s := s) (lo := size) (by omega)]

theorem readIntegerC_ok {s : Sl} {size : Int} (h : 0 < size ∧ size ≤ 8) :
    readIntegerC s size = .ok (if (s.len : Int) < size then (some s, Sl.nil)
      else (some (s.take size.toNat), s.drop size.toNat)) := by
  rw [readIntegerC_eq, if_neg (by omega)]

theorem beVal_zeros_append (n : Nat) (b : Bytes) : beVal (List.replicate n 0 ++ b) = beVal b := by
  induction n with
  | zero => simp
  | succ n ih =>
    rw [List.replicate_succ, List.cons_append]
    simp only [beVal, List.foldl_cons] at *
    simpa using ih

theorem intFromBytesC_eq (s : Sl) : intFromBytesC s = .ok (intFromBytes s.data) := by
  unfold intFromBytesC intFromBytes
  by_cases h0 : s.len = 0
  · go_simp [h0]
  by_cases h8 : s.len < 8
  · go_simp [h0, h8]
    -- the buffer is `s` behind `8 - len` zero bytes; at most 7 bytes stay below 2^56, where `int64(·)` is exact
    have hsmall : toInt64 (beVal s.data) = (beVal s.data : Int) :=
      toInt64_of_lt (Nat.lt_trans (beVal_lt_of_le (k := 7) (by bounds)) (by decide))
    rw [Sl.wr_data (by bounds), Sl.zeros_data, write_tail (by bounds), List.take_of_length_le (l := s.data) (by bounds),
      List.take_of_length_le (by bounds), List.take_replicate, beVal_zeros_append, hsmall]
  · go_simp [h0, h8]

theorem integerIntC_eq (s : Sl) : integerIntC s = .ok (integerInt s.data) := by
  unfold integerIntC integerInt
  go_simp [intFromBytesC_eq, Nat.sub_zero, Sl.take_of_len_le]
  cases intFromBytes s.data <;> rfl

theorem integerInt_beVal {b : Bytes} (h : b.length ≤ 7) : integerInt b = (beVal b : Int) := by
  cases b with
  | nil => rfl
  | cons x t =>
    have h0 : ¬ (x :: t).length = 0 := by simp
    have h8 : (x :: t).length < 8 := by omega
    simp only [integerInt, intFromBytes, h0, h8, if_false, if_true, Option.getD_some]

theorem integerInt_take (b : Bytes) {n : Nat} (h : n ≤ 7) : integerInt (b.take n) = (beVal (b.take n) : Int) :=
  integerInt_beVal (by rw [List.length_take]; omega)

theorem integerInt_nil : integerInt [] = 0 := rfl
attribute [go] intFromBytesC_eq integerIntC_eq integerInt_take

theorem readStrS_spec (s : Sl) :
    ∃ str rem, readStrS s = .ok (str, rem, (readStr s.data).2.2.map StrErrC.ofPure) ∧
      str.data = (readStr s.data).1 ∧ rem.data = (readStr s.data).2.1 := by
  unfold readStrS validateI2PStringDataC parseI2PStringLengthC validateI2PStringDataLengthC extractI2PStringDataC
  cases hd : s.data with
  | nil => exact ⟨Sl.nil, Sl.nil, by simp only [go, Sl.len_of_data_nil hd, readStr]; rfl, rfl, rfl⟩
  | cons l rest =>
    have hl := Sl.len_of_data_cons hd
    have hi : beVal (s.data.take 1) = l.toNat := by rw [hd]; exact beVal_singleton l
    simp only [go, readIntegerC_eq, show ¬ s.len = 0 by omega, show ¬ s.len < 1 by omega, hi]
    by_cases hs : l.toNat ≤ rest.length
    · have hr : readStr (l :: rest) = (l :: rest.take l.toNat, rest.drop l.toNat, none) := if_pos hs
      have hv : verifyI2PStringLengthC (s.take (l.toNat + 1)) (l.toNat : Int) = none := by
        simp [verifyI2PStringLengthC, show min (l.toNat + 1) s.len = l.toNat + 1 by omega]; omega
      simp only [go, show ¬ (s.len : Int) < l.toNat + 1 by omega, sliceTo_ok (s := s) (hi := (l.toNat : Int) + 1) (by omega),
        sliceFrom_ok (s := s) (lo := (l.toNat : Int) + 1) (by omega), show ((l.toNat : Int) + 1).toNat = l.toNat + 1 by omega,
        hv, hr]
      exact ⟨_, _, rfl, by rw [Sl.take_data, hd]; rfl, by rw [Sl.drop_data, hd]; rfl⟩
    · have hr : readStr (l :: rest) = (l :: rest, [], some .short) := if_neg hs
      simp only [go, show (s.len : Int) < l.toNat + 1 by omega, hr]
      exact ⟨s, Sl.nil, rfl, hd, rfl⟩

theorem readDateS_spec (s : Sl) : ∃ r, readDateS s = .ok r ∧ vRem r = readDate s.data := by
  unfold readDateS readDate
  by_cases h : s.len < 8 <;> go_simp [h]

theorem readHashS_spec (s : Sl) : ∃ r, readHashS s = .ok r ∧ vRem r = readHash s.data := by
  unfold readHashS readHash
  by_cases h : s.len < 32 <;> go_simp [h]

/-- the certificate fields as `handleValidCertificateData` copies them out of a buffer of ≥ 3 bytes -/
def certOf (w : Bytes) : Cert := { kind := w.take 1, len := (w.drop 1).take 2, payload := w.drop 3 }

theorem certOf_declared (w : Bytes) : (certOf w).declared = beVal ((w.drop 1).take 2) := rfl

theorem integerInt_kind1 {w : Bytes} (h : 3 ≤ w.length) : integerInt (w.take 1) = (beVal (w.take 1) : Int) := by
  have _ := h  -- not needed: `integerInt_take` holds for every `w`
  exact integerInt_take w (by omega)

theorem integerInt_certOf_len (w : Bytes) : integerInt (certOf w).len = ((certOf w).declared : Int) :=
  integerInt_take _ (by omega)

theorem validateCertificatePayloadLengthC_eq (s : Sl) (h : 3 ≤ s.len) :
    validateCertificatePayloadLengthC (certOf s.data) s = .ok (decide ((certOf s.data).declared ≤ s.len - 3)) := by
  unfold validateCertificatePayloadLengthC
  simp only [go, integerInt_certOf_len]
  by_cases hd : (certOf s.data).declared ≤ s.len - 3
  · simp only [go, hd, show ¬ (s.len : Int) - 3 < (certOf s.data).declared by omega]
  · go_simp [hd, show (s.len : Int) - 3 < (certOf s.data).declared by omega]

theorem handleValidCertificateDataC_eq (s : Sl) (h : 3 ≤ s.len) :
    handleValidCertificateDataC s = .ok (certOf s.data, decide ((certOf s.data).declared ≤ s.len - 3)) := by
  unfold handleValidCertificateDataC
  -- the three copies, evaluated once: the certificate built from them occurs in every later step
  have k1 : (copy (Sl.zeros 1) (s.take 1)).data = (certOf s.data).kind :=
    (copy_whole (by bounds)).trans (Sl.take_data s 1)
  have k2 : (copy (Sl.zeros 2) ((s.drop 1).take 2)).data = (certOf s.data).len :=
    (copy_whole (by bounds)).trans (by rw [Sl.take_data, Sl.drop_data]; rfl)
  have k3 : (copy (Sl.zeros (s.len - 3)) (s.drop 3)).data = (certOf s.data).payload :=
    (copy_whole (Sl.drop_len s 3)).trans (Sl.drop_data s 3)
  go_simp [k1, k2, k3, validateCertificatePayloadLengthC_eq s h]
  by_cases hd : (certOf s.data).declared ≤ s.len - 3 <;> simp only [go, hd]

theorem parseCertificateFromDataC_short (s : Sl) (h : s.len < 3) : ∃ c, parseCertificateFromDataC s = .ok (c, false) := by
  unfold parseCertificateFromDataC handleEmptyCertificateDataC handleShortCertificateDataC
  by_cases h0 : s.len = 0
  · go_simp [h0]; exact ⟨_, rfl⟩
  by_cases h1 : s.len = 1
  · go_simp [h0, h1]; exact ⟨_, rfl⟩
  · have h2 : s.len = 2 := by omega
    go_simp [h0, h1, h2]; exact ⟨_, rfl⟩

theorem parseCertificateFromDataC_valid (s : Sl) (h : 3 ≤ s.len) :
    parseCertificateFromDataC s = .ok (certOf s.data, decide ((certOf s.data).declared ≤ s.len - 3)) := by
  unfold parseCertificateFromDataC
  simp only [go, show ¬ s.len = 0 by omega, show ¬ s.len = 1 by omega, show ¬ s.len = 2 by omega,
    handleValidCertificateDataC_eq s h]

theorem certIsValidC_of {c : Cert} (hk : c.kind.length = 1) (hl : c.len.length = 2) : certIsValidC c = true := by
  simp [certIsValidC, hk, hl]

theorem certLengthC_certOf {w : Bytes} (h : 3 ≤ w.length) :
    certLengthC (certOf w) = .ok (3 + (min (w.length - 3) (certOf w).declared : Nat)) := by
  unfold certLengthC
  have hv := certIsValidC_of (c := certOf w) (by simp [certOf]; omega) (by simp [certOf]; omega)
  simp only [go, hv, integerInt_certOf_len]
  simp only [certOf, List.length_drop]
  congr 2
  split <;> omega

theorem readCertS_spec (s : Sl) : ∃ r, readCertS s = .ok r ∧ vRem r = readCert s.data := by
  unfold readCertS validateTypeSpecificPayloadC calculateRemainderC
  rw [readCert_eq, ← certOf_declared, s.data_length]
  by_cases h : s.len < 3
  · obtain ⟨c, hc⟩ := parseCertificateFromDataC_short s h
    simp only [go, hc, h]
  have hl : 3 ≤ s.data.length := by bounds
  have hp := parseCertificateFromDataC_valid s (Nat.le_of_not_lt h)
  by_cases hd : (certOf s.data).declared ≤ s.len - 3
  case neg => simp only [go, hp, h, hd, show s.len - 3 < (certOf s.data).declared by omega]
  simp only [go, hp, h, hd, show ¬ s.len - 3 < (certOf s.data).declared by omega,
    certLengthC_certOf hl, show min (s.len - 3) (certOf s.data).declared = (certOf s.data).declared by omega]
  by_cases hg : 3 + ((certOf s.data).declared : Int) < s.len
  · simp only [go, hg, sliceFrom_ok (s := s) (lo := 3 + ((certOf s.data).declared : Int)) (by omega),
      show (3 + ((certOf s.data).declared : Int)).toNat = 3 + (certOf s.data).declared by omega]
    rfl
  · simp only [go, hg, List.drop_of_length_le (show s.data.length ≤ 3 + (certOf s.data).declared by bounds)]
    rfl

theorem certTypeC_eq {c : Cert} (hk : c.kind.length = 1) (hl : c.len.length = 2) :
    certTypeC c = .ok (some (c.type : Int)) := by
  have := beVal_lt_of_le (b := c.kind) (k := 1) (by omega)
  unfold certTypeC
  simp only [go, certIsValidC_of hk hl, integerInt_beVal (b := c.kind) (by omega), Cert.type,
    show ¬ (beVal c.kind < 0 ∨ 255 < beVal c.kind) by omega]

theorem certLengthFieldC_eq {c : Cert} (hk : c.kind.length = 1) (hl : c.len.length = 2) :
    certLengthFieldC c = .ok (some (c.declared : Int)) := by
  have := beVal_lt_of_le (b := c.len) (k := 2) (by omega)
  unfold certLengthFieldC
  simp only [go, certIsValidC_of hk hl, integerInt_beVal (b := c.len) (by omega), Cert.declared,
    show ¬ (beVal c.len < 0 ∨ 65535 < beVal c.len) by omega]

theorem certDataC_spec {c : Cert} (hk : c.kind.length = 1) (hl : c.len.length = 2) :
    ∃ d, certDataC c = .ok (some d) ∧ d.data = c.data := by
  unfold certDataC
  simp only [go, certLengthFieldC_eq hk hl]
  by_cases h : c.payload.length < c.declared
  · simp only [go, h]
    exact ⟨_, rfl, by rw [Sl.ofBytes_data, Cert.data, List.take_of_length_le (by omega)]⟩
  · go_simp [h, Nat.sub_zero]
    exact ⟨_, rfl, by simp [Cert.data]⟩

theorem validateKeyCertificateTypeC_eq {c : Cert} (hk : c.kind.length = 1) (hl : c.len.length = 2) :
    validateKeyCertificateTypeC c = .ok (decide (c.type = 5)) := by
  unfold validateKeyCertificateTypeC
  simp only [go, certTypeC_eq hk hl]

theorem validateKeyCertificateDataLengthC_eq (d : Sl) :
    validateKeyCertificateDataLengthC d = .ok (decide (4 ≤ d.len)) := by
  unfold validateKeyCertificateDataLengthC
  by_cases h : d.len < 4
  · simp only [go, h, show ¬ 4 ≤ d.len by omega]
  · go_simp [h, show 4 ≤ d.len by omega]

theorem integerIntC'_some (s : Sl) : integerIntC' (some s) = .ok (integerInt s.data) := by
  simp [integerIntC', integerIntC_eq]

theorem extractKeyTypesC_eq (d : Sl) (h : 4 ≤ d.len) :
    extractKeyTypesC d = .ok (some (d.take 2), some ((d.drop 2).take 2)) := by
  unfold extractKeyTypesC
  go_simp [readIntegerC_eq, integerIntC'_some, show min 2 d.len = 2 by omega, show min 2 (d.len - 2) = 2 by omega]

theorem newKeyCertS_spec (s : Sl) : ∃ r, newKeyCertS s = .ok r ∧ vRem r = newKeyCert s.data := by
  unfold newKeyCertS newKeyCert validatePayloadLengthAgainstKeyTypesC buildKeyCertificateC
  rcases refines_cases (readCertS_spec s) with ⟨hc, hp⟩ | ⟨⟨c, rem⟩, hc, hp⟩ <;> simp only [go, hc, hp]
  obtain ⟨hk, hl⟩ := readCert_lengths hp
  simp only [go, validateKeyCertificateTypeC_eq hk hl]
  by_cases ht : c.type = 5
  case neg => simp only [go, ht]
  obtain ⟨d, hd, hdd⟩ := certDataC_spec hk hl
  have hdl : d.len = c.data.length := by rw [← hdd, d.data_length]
  simp only [go, ht, hd, validateKeyCertificateDataLengthC_eq]
  by_cases h4 : 4 ≤ d.len
  case neg => simp only [go, h4, show c.data.length < 4 by omega]
  simp only [go, h4, show ¬ c.data.length < 4 by omega, extractKeyTypesC_eq d h4, integerIntC'_some, hdd]

theorem constructPublicKeyC_eq (kc : KeyCert) (d : Sl) (h : 256 ≤ d.len) :
    constructPublicKeyC kc d =
      .ok (if cryptoConstructible kc.cpk = true then some (d.data.take (cryptoSize kc.cpk)) else none) := by
  unfold constructPublicKeyC
  have hl : ¬ d.len < 256 := by omega
  by_cases h0 : kc.cpk = 0
  · go_simp [hl, h0, show cryptoConstructible 0 = true from rfl, show cryptoSize 0 = 256 from rfl]
  by_cases h4 : kc.cpk = 4 ∨ kc.cpk = 5 ∨ kc.cpk = 6 ∨ kc.cpk = 7
  · have hs : cryptoSize kc.cpk = 32 := by rcases h4 with h | h | h | h <;> rw [h] <;> rfl
    go_simp [hl, h0, h4, (cryptoConstructible_iff _).2 (.inr h4), hs]
  · have hc : ¬ cryptoConstructible kc.cpk = true := by rw [cryptoConstructible_iff]; omega
    simp only [go, hl, h0, h4, hc]

theorem constructPublicKeyFromCertC_eq (kc : KeyCert) (s : Sl) (h : 256 ≤ s.len) :
    constructPublicKeyFromCertC kc s =
      .ok (if cryptoConstructible kc.cpk = true then some (s.data.take (cryptoSize kc.cpk)) else none) := by
  unfold constructPublicKeyFromCertC
  have hl : ¬ s.len < 256 := by omega
  by_cases h0 : cryptoSize kc.cpk = 0
  · have hc : ¬ cryptoConstructible kc.cpk = true := fun hc => by have := cryptoSize_of_constructible hc; omega
    simp only [go, h0, hc]
  · go_simp [h0, hl, constructPublicKeyC_eq kc (s.take 256) (by bounds)]
    split
    · rename_i hc; have := cryptoSize_of_constructible hc; rw [Nat.min_eq_left (by omega)]
    · rfl

theorem constructPaddedKeyC_eq (keySize : Nat) (d : Sl) (hk : keySize ≤ 128) :
    constructPaddedKeyC keySize d = .ok (if d.len < keySize then none else
      some (if 128 ≤ d.len then (d.data.drop (128 - keySize)).take keySize else d.data.take keySize)) := by
  unfold constructPaddedKeyC
  by_cases h : d.len < keySize
  · simp only [go, h]
  by_cases h128 : 128 ≤ d.len <;> go_simp [h, h128, Int.sub_sub_self]

theorem constructPaddedKeyC_full (n : Nat) (D : Sl) (hl : D.len = n) (hn : n ≤ 128) :
    constructPaddedKeyC n D = .ok (some D.data) := by
  have full : D.data.take n = D.data := List.take_of_length_le (by bounds)
  rw [constructPaddedKeyC_eq n D hn, if_neg (by omega)]
  split
  · rw [show n = 128 by omega] at full ⊢; exact congrArg _ (congrArg _ full)
  · rw [full]

theorem constructEd25519KeyC_eq (d : Sl) :
    constructEd25519KeyC d = .ok (if d.len = 32 then some d.data else none) := by
  unfold constructEd25519KeyC
  by_cases h : d.len = 32
  · go_simp [h, List.take_of_length_le (show d.data.length ≤ 32 by bounds)]
  · simp only [go, h]

theorem selectSigningKeyConstructorC_eq (t : Nat) (D : Sl) (hc : sigConstructible t = true) (hl : D.len = sigPubSize t) :
    selectSigningKeyConstructorC (t : Int) D = .ok (some D.data) := by
  unfold selectSigningKeyConstructorC constructDSAKeyC constructECDSAP256KeyC constructECDSAP384KeyC
  rcases (sigConstructible_iff _).1 hc with rfl | rfl | rfl | rfl | rfl | rfl
  · simp only [go]; exact constructPaddedKeyC_full 128 D hl (by decide)
  · simp only [go]; exact constructPaddedKeyC_full 64 D hl (by decide)
  · simp only [go]; exact constructPaddedKeyC_full 96 D hl (by decide)
  all_goals simp only [go, constructEd25519KeyC_eq, show D.len = 32 from hl]

theorem constructSigningKeyFromCertC_eq (kc : KeyCert) (s : Sl) (h : 384 ≤ s.len) :
    constructSigningKeyFromCertC kc s (sigPubSize kc.spk) =
      .ok (if sigConstructible kc.spk = true then some ((s.data.take 384).drop (384 - sigPubSize kc.spk)) else none) := by
  unfold constructSigningKeyFromCertC constructSigningPublicKeyC
  by_cases hc : sigConstructible kc.spk = true
  · have hs := sigPubSize_of_constructible hc
    have hm : min (sigPubSize kc.spk) (s.len - (384 - sigPubSize kc.spk)) = sigPubSize kc.spk := by omega
    go_simp [hc, show ¬ sigPubSize kc.spk ≤ 0 by omega, show ¬ 128 < sigPubSize kc.spk by omega, List.drop_take,
      Int.sub_sub_self, hm, Nat.sub_sub_self (show sigPubSize kc.spk ≤ 384 by omega),
      selectSigningKeyConstructorC_eq kc.spk ((s.drop (384 - sigPubSize kc.spk)).take (sigPubSize kc.spk)) hc (by bounds)]
  · simp only [go, hc]
    have : sigPubSize kc.spk ≤ 0 ∨ 128 < sigPubSize kc.spk := by
      have := mt (sigConstructible_iff_size kc.spk).2 hc
      omega
    rcases this with g | g <;> simp only [go, g]

/-- a `copy` that Go code skips because its size is 0 is the copy of no bytes -/
theorem skip_copyTo (p src : Sl) (n : Nat) : (if 0 < n then copyTo p n src else .ok p) = copyTo p n src := by
  cases n with
  | zero => rw [if_neg (Nat.lt_irrefl 0), copyTo_ok (by omega)]; exact congrArg _ (Sl.wr_nil p 0).symm
  | succ n => rw [if_pos (Nat.succ_pos n)]

theorem skip_copyFrom {p src : Sl} {a b : Nat} (h : p.len = a + b) :
    (if 0 < b then copyFrom p a src else .ok p) = copyFrom p a src := by
  cases b with
  | zero =>
    rw [if_neg (Nat.lt_irrefl 0), copyFrom_ok (by omega), Int.toNat_natCast, h, Nat.add_zero, Nat.sub_self, List.take_zero,
      Sl.wr_nil]
  | succ n => rw [if_pos (Nat.succ_pos n)]

/-- `extractPaddingFromData` relies on exactly the two guards `hc`, `hs`: under them it cannot panic -/
theorem extractPaddingFromDataC_eq (s : Sl) (cs ss : Nat) (h : 384 ≤ s.len) (hc : cs ≤ 256) (hs : ss ≤ 128) :
    extractPaddingFromDataC s cs ss = .ok (extractPadding s.data cs ss) := by
  by_cases hN : 384 ≤ cs + ss
  · rw [extractPaddingFromDataC, if_pos (by omega), extractPadding, if_pos hN]; rfl
  -- `a`, `b`: the sizes of the two pieces; in these terms every `Int` of the program is the cast of a `Nat`
  obtain ⟨a, ha⟩ : ∃ a, 256 = cs + a := Nat.exists_eq_add_of_le hc
  obtain ⟨b, hb⟩ : ∃ b, 128 = ss + b := Nat.exists_eq_add_of_le hs
  have l1 : ((s.data.drop cs).take a).length = a :=
    List.length_take_of_le (by rw [List.length_drop, s.data_length]; omega)
  have l2 : ((s.data.drop 256).take b).length = b :=
    List.length_take_of_le (by rw [List.length_drop, s.data_length]; omega)
  rw [extractPadding, if_neg hN, List.drop_take, List.drop_take, show 256 - cs = a by omega, show 384 - ss - 256 = b by omega]
  have ea : (256 : Int) - cs = a := by omega
  have eb : (128 : Int) - ss = b := by omega
  have eN : (384 : Int) - cs - ss = ((a + b : Nat) : Int) := by omega
  have c1 : slice s cs 256 = .ok ((s.drop cs).take a) := by
    rw [slice_ok (by omega), ea, Int.toNat_natCast, Int.toNat_natCast]
  have c2 : slice s 256 (256 + (b : Int)) = .ok ((s.drop 256).take b) := by
    rw [slice_ok (by omega), Int.add_comm, Int.add_sub_cancel, Int.toNat_natCast]; rfl
  simp only [extractPaddingFromDataC, eN, ea, eb, go, c1, c2]
  rw [if_neg (by omega), skip_copyTo, copyTo_ok (by bounds), bind_ok, skip_copyFrom (Sl.wr_len ..),
    copyFrom_ok (by bounds), bind_ok, Int.toNat_natCast]
  simp only [go, Nat.add_sub_cancel_left, List.take_of_length_le (Nat.le_of_eq l1), List.take_of_length_le (Nat.le_of_eq l2)]
  rw [zeros_wr_wr_data l1 (by rw [l2])]

/-- the old bug: a 32-byte crypto key with a signing key of more than 128 (and less than 352) bytes makes
    `padding[:224]` exceed the capacity `384 - 32 - ss` of the freshly made padding buffer -/
theorem extractPaddingFromDataC_panics (s : Sl) (ss : Nat) (h : 384 ≤ s.len) (h1 : 128 < ss) (h2 : ss < 352) :
    extractPaddingFromDataC s 32 ss = .error .sliceOOB := by
  simp only [extractPaddingFromDataC]
  rw [if_neg (by omega), mk_eq (by omega)]
  simp only [bind_ok, gt_iff_lt, Int.reduceSub, Int.reduceLT, if_true]
  rw [slice_ok (by omega)]
  simp only [bind_ok, copyTo, copyAt]
  rw [slice_err (by simp only [Sl.zeros_cap]; omega)]
  rfl

theorem getD_of_drop {w : Bytes} {n : Nat} {b : UInt8} {t : Bytes} (h : w.drop n = b :: t) : w.getD n 0 = b := by
  rw [← Nat.add_zero n, ← getD_drop, h]; rfl

theorem readKeysAndCertNonKeyCertC_spec (s : Sl) (b : UInt8) (t : Bytes) (h : 387 ≤ s.len)
    (hb : s.data.drop 384 = b :: t) (h5 : b ≠ 5) :
    ∃ r, readKeysAndCertNonKeyCertC s (b.toNat : Int) = .ok r ∧ vRem r = readKac s.data := by
  unfold readKeysAndCertNonKeyCertC
  by_cases h0 : b = 0
  case neg =>
    have : ¬ b.toNat = 0 := fun hh => h0 (UInt8.toNat_inj.mp hh)
    simp only [go, this, readKac_other hb h5 h0]
  subst h0
  rw [readKac_null (by bounds) hb]
  have hs := sliceFrom_ok (s := s) (lo := 384) (by omega)
  rcases refines_cases (readCertS_spec (s.drop 384)) with ⟨hc, hp⟩ | ⟨⟨c, rem⟩, hc, hp⟩ <;> simp only [go] at hp
  · simp only [go, UInt8.toNat_zero, hs, hc, hp, Option.bind_none]
  -- the Go code extracts the (empty) padding before the signing key here; both orders agree
  have h384 : 384 ≤ s.len := by omega
  have hk := constructPublicKeyFromCertC_eq { cert := c, spk := 0, cpk := 0 } s (by omega)
  have hsg := constructSigningKeyFromCertC_eq { cert := c, spk := 0, cpk := 0 } s h384
  have hp' := extractPaddingFromDataC_eq s (cryptoSize 0) (sigPubSize 0) h384 (by decide) (by decide)
  simp only [show cryptoConstructible 0 = true from rfl, show sigConstructible 0 = true from rfl, if_true] at hk hsg
  simp only [go, UInt8.toNat_zero, hs, hc, hp, Option.bind_some, hk, hsg, hp', finishKac_eq]
  rfl

theorem readKacS_spec (s : Sl) : ∃ r, readKacS s = .ok r ∧ vRem r = readKac s.data := by
  unfold readKacS
  by_cases h : s.len < 387
  · simp only [go, h, readKac_short (show s.data.length < 387 by bounds)]
  have hl : 387 ≤ s.data.length := by bounds
  cases hb : s.data.drop 384 with
  | nil => rw [List.drop_eq_nil_iff] at hb; omega
  | cons b t =>
  have hi : index s 384 = .ok b := (index_ok (by omega)).trans (congrArg _ (getD_of_drop hb))
  by_cases h5 : b = 5
  case neg =>
    have : ¬ b.toNat = 5 := fun hh => h5 (UInt8.toNat_inj.mp hh)
    simp only [go, h, hi, this]
    exact readKeysAndCertNonKeyCertC_spec s b t (by omega) hb h5
  subst h5
  unfold parseKeyCertificateFromDataC
  rw [readKac_key hl hb]
  have hs := sliceFrom_ok (s := s) (lo := 384) (by omega)
  rcases refines_cases (newKeyCertS_spec (s.drop 384)) with ⟨hc, hp⟩ | ⟨⟨kc, rem⟩, hc, hp⟩ <;> simp only [go] at hp <;>
    simp only [go, h, hi, show (5 : UInt8).toNat = 5 from rfl, hs, hc, hp, Option.bind_none, Option.bind_some]
  have h384 : 384 ≤ s.len := by omega
  rw [constructPublicKeyFromCertC_eq kc s (by omega), finishKac_eq]
  cases hcc : cryptoConstructible kc.cpk
  · simp only [go]
  cases hsc : sigConstructible kc.spk
  · simp only [go, constructSigningKeyFromCertC_eq kc s h384, hsc]
  have h1 := cryptoSize_of_constructible hcc
  have h2 := sigPubSize_of_constructible hsc
  simp only [go, constructSigningKeyFromCertC_eq kc s h384, hsc,
    extractPaddingFromDataC_eq s (cryptoSize kc.cpk) (sigPubSize kc.spk) h384 (by omega) (by omega)]

theorem readDestinationS_spec (s : Sl) : ∃ r, readDestinationS s = .ok r ∧ vRem r = readDestination s.data := by
  unfold readDestinationS readDestination
  rcases refines_cases (readKacS_spec s) with ⟨hc, hp⟩ | ⟨⟨k, rem⟩, hc, hp⟩ <;> simp only [go, hc, hp]
  split <;> simp only [go]

theorem extractEd25519SigningKeyC_eq (s : Sl) (h : 384 ≤ s.len) :
    extractEd25519SigningKeyC s 352 32 = .ok (some ((s.data.take 384).drop 352)) := by
  unfold extractEd25519SigningKeyC
  go_simp [show ¬ s.len < 384 by omega, List.drop_take]

theorem readKacElgEdS_spec (s : Sl) : ∃ r, readKacElgEdS s = .ok r ∧ vRem r = readKacFast 0 s.data := by
  unfold readKacElgEdS readKacFast extractElGamalPublicKeyC extractPaddingDataC extractKeyCertificateC requireKeyTypesC
  by_cases h : s.len < 387
  · simp only [go, h]
  go_simp [h, show ¬ s.len < 256 by omega, extractEd25519SigningKeyC_eq s (by omega)]
  rcases refines_cases (newKeyCertS_spec (s.drop 384)) with ⟨hc, hp⟩ | ⟨⟨kc, rem⟩, hc, hp⟩ <;>
    simp only [go] at hp <;> simp only [go, hc, hp]
  by_cases hq : ¬ kc.spk = 7 ∨ ¬ kc.cpk = 0 <;> simp only [go, hq, List.drop_take, show cryptoSize 0 = 256 from rfl]

theorem readKacX25519EdS_spec (s : Sl) : ∃ r, readKacX25519EdS s = .ok r ∧ vRem r = readKacFast 4 s.data := by
  unfold readKacX25519EdS readKacFast extractX25519PublicKeyC extractKeyCertificateC requireKeyTypesC
  by_cases h : s.len < 387
  · simp only [go, h]
  have hpad := extractPaddingFromDataC_eq s 32 32 (by omega) (by omega) (by omega)
  rw [extractPadding_eq _ _ _ (by bounds) (by omega) (by omega)] at hpad
  simp only [go] at hpad
  go_simp [h, show ¬ s.len < 256 by omega, extractEd25519SigningKeyC_eq s (by omega), hpad]
  rcases refines_cases (newKeyCertS_spec (s.drop 384)) with ⟨hc, hp⟩ | ⟨⟨kc, rem⟩, hc, hp⟩ <;>
    simp only [go] at hp <;> simp only [go, hc, hp]
  by_cases hq : ¬ kc.spk = 7 ∨ ¬ kc.cpk = 4 <;> simp only [go, hq, show cryptoSize 4 = 32 from rfl]

/-- the pre-fix order panics on EVERY input of at least 387 bytes whose key certificate declares a 32-byte
    crypto key (X25519 / ML-KEM hybrids) together with P-521 or RSA-2048 signing -/
theorem readKacPrefixS_panics (s : Sl) (h : 387 ≤ s.len) (kc : KeyCert) (rem : Bytes) (t : Bytes)
    (h5 : s.data.drop 384 = 5 :: t)
    (hkc : newKeyCert (s.data.drop 384) = some (kc, rem))
    (hc : kc.cpk = 4 ∨ kc.cpk = 5 ∨ kc.cpk = 6 ∨ kc.cpk = 7) (hs : kc.spk = 3 ∨ kc.spk = 4) :
    readKacPrefixS s = .error .sliceOOB := by
  rcases refines_cases (newKeyCertS_spec (s.drop 384)) with ⟨-, hp⟩ | ⟨⟨kc', rem'⟩, hr, hp⟩ <;>
    simp only [go, hkc, Option.some.injEq, Prod.mk.injEq, reduceCtorEq] at hp
  obtain ⟨rfl, -⟩ := hp
  have hcs : cryptoSize kc.cpk = 32 := by rcases hc with h | h | h | h <;> rw [h] <;> rfl
  have hss : 128 < sigPubSize kc.spk ∧ sigPubSize kc.spk < 352 := by rcases hs with h | h <;> rw [h] <;> decide
  unfold readKacPrefixS parseKeyCertificateFromDataC
  simp only [go, show ¬ s.len < 387 by omega, index_ok (s := s) (i := 384) (by omega), getD_of_drop h5,
    show (5 : UInt8).toNat = 5 from rfl, sliceFrom_ok (s := s) (lo := 384) (by omega), hr,
    constructPublicKeyFromCertC_eq kc s (by omega), (cryptoConstructible_iff _).2 (.inr hc), hcs,
    extractPaddingFromDataC_panics s _ (by omega) hss.1 hss.2]

open I2P.Structs

/-- copy-out of a prefix: `extractTransientPublicKey`, `extractSignature`; `extractSignatureData` and
    `extractEncryptionKeyData` are the same function under other names (by `rfl`) -/
theorem extractPrefixCopyC_eq (s : Sl) (n : Nat) (h : n ≤ s.len) :
    extractPrefixCopyC s n = .ok (s.data.take n, s.drop n) := by
  unfold extractPrefixCopyC
  obtain ⟨hto, hfrom, hlen⟩ := take_drop_ok h
  simp only [go, hto, hfrom, copy_whole hlen]

theorem getSignatureLengthC_nat (t : Nat) :
    getSignatureLengthC (t : Int) = if sigLen t = 0 then none else some (sigLen t : Int) := by
  unfold getSignatureLengthC
  by_cases h : t ≤ 65535
  · simp only [go, show ¬ (t < 0 ∨ 65535 < t) by omega]
  · simp only [go, show (t < 0 ∨ 65535 < t) by omega, sigLen_big (show 11 < t by omega)]

theorem getSignatureLengthC_of_sigLen {t : Nat} (h : sigLen t ≠ 0) : getSignatureLengthC (t : Int) = some (sigLen t : Int) := by
  rw [getSignatureLengthC_nat, if_neg h]

theorem getSignatureLengthC_neg {t : Int} (h : t < 0) : getSignatureLengthC t = none := by
  simp [getSignatureLengthC, h]

theorem readSigS_spec (s : Sl) (t : Nat) : ∃ r, readSigS s t = .ok r ∧ vRem r = readSig s.data t := by
  unfold readSigS readSig
  rw [getSignatureLengthC_nat, show extractSignatureDataC = extractPrefixCopyC from rfl]
  by_cases h0 : sigLen t = 0
  · simp only [go, h0]
  by_cases hl : s.len < sigLen t
  · simp only [go, h0, hl]
  · simp only [go, h0, hl, extractPrefixCopyC_eq s _ (show sigLen t ≤ s.len by omega)]

theorem readSigS_neg (s : Sl) {t : Int} (h : t < 0) : readSigS s t = .ok none := by
  simp [readSigS, getSignatureLengthC_neg h]

/-- projection of a parsed offline signature on what the pure model returns -/
def vOff (r : Option (OffSig × Sl)) : Option (Bytes × Bytes × Nat) := r.map fun p => (p.1.bytes, p.2.data, p.1.sigtype)

theorem parseOfflineSignatureHeaderC_eq (s : Sl) (h : 6 ≤ s.len) :
    parseOfflineSignatureHeaderC s = .ok (beVal (s.data.take 4), beVal ((s.data.drop 4).take 2), s.drop 6) := by
  unfold parseOfflineSignatureHeaderC
  go_simp []

theorem readOffSigS_spec (s : Sl) (t : Nat) : ∃ r, readOffSigS s t = .ok r ∧ vOff r = readOffSig s.data t := by
  unfold readOffSigS readOffSig
  by_cases h6 : s.len < 6
  · simp only [go, h6, vOff]
  simp only [go, h6, vOff, parseOfflineSignatureHeaderC_eq s (by omega)]
  generalize hst : beVal ((s.data.drop 4).take 2) = st
  by_cases hk0 : sigPubSize st = 0
  · simp only [go, hk0]
  by_cases hk : s.len - 6 < sigPubSize st
  · simp only [go, hk0, hk]
  simp only [go, hk0, hk, extractPrefixCopyC_eq (s.drop 6) (sigPubSize st) (by bounds)]
  by_cases hs0 : sigLen t = 0
  · simp only [go, hs0]
  by_cases hs : s.len - (6 + sigPubSize st) < sigLen t
  · simp only [go, hs0, hs]
  simp only [go, hs0, hs, extractPrefixCopyC_eq (s.drop (6 + sigPubSize st)) (sigLen t) (by bounds), OffSig.bytes]
  -- the four fields re-serialise to the prefix that was read
  have b4 := beEnc_beVal_take s.data 0 4 (by bounds)
  have b2 := beEnc_beVal_take s.data 4 2 (by bounds)
  rw [List.drop_zero] at b4
  rw [← hst, b4, b2, ← List.take_add, ← List.take_add, ← List.take_add]

/-- serialised offline signature / type of the trailing signature, as the pure `readELS` tracks them -/
def offBytes (oo : Option OffSig) : Bytes := match oo with | none => [] | some o => o.bytes
def offSigT (oo : Option OffSig) (st : Nat) : Nat := match oo with | none => st | some o => o.sigtype

theorem readLeaseS_spec (s : Sl) : ∃ r, readLeaseS s = .ok r ∧ vRem r = readFixedN 44 s.data := by
  unfold readLeaseS readFixedN
  by_cases h : s.len < 44 <;> go_simp [h]

theorem readLease2S_eq (s : Sl) :
    readLease2S s = .ok (if s.len < 40 then none else some (s.data.take 40, s.drop 40)) := by
  unfold readLease2S
  by_cases h : s.len < 40 <;> go_simp [h]

theorem readLease2S_spec (s : Sl) : ∃ r, readLease2S s = .ok r ∧ vRem r = readFixedN 40 s.data := by
  rw [readLease2S_eq, readFixedN]
  by_cases h : s.len < 40 <;> simp only [go, h]

/-- on success `ReadLease2` consumes exactly 40 bytes -/
theorem readLease2S_some {s : Sl} {l : Bytes} {rem : Sl} (h : readLease2S s = .ok (some (l, rem))) :
    40 ≤ s.len ∧ l = s.data.take 40 ∧ rem.data = s.data.drop 40 ∧ rem.len + 40 = s.len := by
  rw [readLease2S_eq] at h
  by_cases h40 : s.len < 40
  · simp [h40] at h
  · simp only [h40, if_false, Except.ok.injEq, Option.some.injEq, Prod.mk.injEq] at h
    obtain ⟨rfl, rfl⟩ := h
    exact ⟨by omega, rfl, by simp, by bounds⟩

end I2P.Checked
