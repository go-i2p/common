import I2P.Fixed
/-! The fixed-width helpers of `I2P/Fixed.lean`.  The unsigned ones are `beEnc`/`beVal`.  The signed ones are two's
    complement over the modulus `256 ^ w`: that arithmetic is done once on `Int` (`signed_residue`, `residue_signed`),
    and `toUnsigned_cast`, `toSigned_cast` carry the model's `Nat` values there. -/
namespace I2P.Fixed

theorem encodeUint_length (w v : Nat) : (encodeUint w v).length = w := beEnc_length w v

theorem decode_encodeUint (w v : Nat) (h : v < 256 ^ w) : decodeUint (encodeUint w v) = v := beVal_beEnc w v h

theorem encode_decodeUint (b : Bytes) : encodeUint b.length (decodeUint b) = b := beEnc_beVal b

theorem decodeUint_lt (b : Bytes) : decodeUint b < 256 ^ b.length := beVal_lt b

/-- the residue of `v ∈ [-M/2, M/2)`, read as negative from `M/2` on, is `v` -/
theorem signed_residue {M v : Int} (hlo : -M ≤ 2 * v) (hhi : 2 * v < M) :
    (if 2 * (v % M) < M then v % M else v % M - M) = v := by
  by_cases h0 : 0 ≤ v
  · rw [Int.emod_eq_of_lt h0 (by omega), if_pos hhi]
  · rw [← Int.add_emod_right, Int.emod_eq_of_lt (by omega) (by omega), if_neg (by omega)]
    omega

theorem residue_signed {M u : Int} (h0 : 0 ≤ u) (h : u < M) : (if 2 * u < M then u else u - M) % M = u := by
  split
  · exact Int.emod_eq_of_lt h0 h
  · rw [← Int.add_emod_right, Int.sub_add_cancel, Int.emod_eq_of_lt h0 h]

theorem modulus_pos (w : Nat) : (0 : Int) < ((256 ^ w : Nat) : Int) := Int.natCast_pos.mpr (Nat.pow_pos (by decide))

theorem toUnsigned_cast (w : Nat) (v : Int) : ((toUnsigned w v : Nat) : Int) = v % ((256 ^ w : Nat) : Int) :=
  Int.toNat_of_nonneg (Int.emod_nonneg v (Int.ne_of_gt (modulus_pos w)))

theorem toSigned_cast (w u : Nat) :
    toSigned w u = if 2 * (u : Int) < ((256 ^ w : Nat) : Int) then (u : Int) else u - ((256 ^ w : Nat) : Int) := by
  simp only [toSigned, ← Int.ofNat_lt, Int.natCast_mul, Int.cast_ofNat_Int]

theorem toUnsigned_lt (w : Nat) (v : Int) : toUnsigned w v < 256 ^ w :=
  Int.ofNat_lt.mp (toUnsigned_cast w v ▸ Int.emod_lt_of_pos v (modulus_pos w))

theorem toSigned_toUnsigned (w : Nat) (v : Int)
    (hlo : -((256 ^ w : Nat) : Int) ≤ 2 * v) (hhi : 2 * v < ((256 ^ w : Nat) : Int)) :
    toSigned w (toUnsigned w v) = v := by
  rw [toSigned_cast, toUnsigned_cast]
  exact signed_residue hlo hhi

theorem decode_encodeInt (w : Nat) (v : Int)
    (hlo : -((256 ^ w : Nat) : Int) ≤ 2 * v) (hhi : 2 * v < ((256 ^ w : Nat) : Int)) :
    decodeInt (encodeInt w v) = v := by
  unfold decodeInt encodeInt
  rw [encodeUint_length, decode_encodeUint _ _ (toUnsigned_lt w v)]
  exact toSigned_toUnsigned w v hlo hhi

theorem toUnsigned_toSigned (w u : Nat) (h : u < 256 ^ w) : toUnsigned w (toSigned w u) = u := by
  apply Int.natCast_inj.mp
  rw [toUnsigned_cast, toSigned_cast]
  exact residue_signed (Int.natCast_nonneg u) (Int.ofNat_lt.mpr h)

theorem encode_decodeInt (b : Bytes) : encodeInt b.length (decodeInt b) = b := by
  unfold encodeInt decodeInt
  rw [toUnsigned_toSigned _ _ (decodeUint_lt b)]
  exact encode_decodeUint b

theorem decodeInt_range (b : Bytes) :
    -((256 ^ b.length : Nat) : Int) ≤ 2 * decodeInt b ∧ 2 * decodeInt b < ((256 ^ b.length : Nat) : Int) := by
  have h := Int.ofNat_lt.mpr (decodeUint_lt b)
  rw [decodeInt, toSigned_cast]
  split <;> omega

end I2P.Fixed
