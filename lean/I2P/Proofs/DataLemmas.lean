import I2P.Data
import I2P.Proofs.BytesLemmas
/-! The primitives of `I2P/Data.lean`.  The fixed-width conversions are `%` and `Int.toNat` with literal moduli: inside
    the range the reduction does nothing, and what is left is linear arithmetic for `omega`.  `ReadI2PString` and
    `NewI2PStringFromBytes` are characterised through `strDataOk`: a reader cuts a well-formed value off the front. -/
namespace I2P

theorem toUInt64_natCast {m : Nat} (h : m < 2 ^ 64) : toUInt64 (m : Int) = m := by
  rw [toUInt64, Int.emod_eq_of_lt (Int.natCast_nonneg m) (by omega), Int.toNat_natCast]

theorem toUInt64_of_nonneg {v : Int} (h0 : 0 ≤ v) (h : v < 2 ^ 64) : (toUInt64 v : Int) = v := by
  rw [toUInt64, Int.emod_eq_of_lt h0 h, Int.toNat_of_nonneg h0]

theorem toUInt64_neg {v : Int} (h1 : -2 ^ 63 ≤ v) (h2 : v < 0) : (toUInt64 v : Int) = v + 2 ^ 64 := by
  rw [toUInt64, ← Int.add_emod_right, Int.emod_eq_of_lt (by omega) (by omega), Int.toNat_of_nonneg (by omega)]

theorem toInt64_of_lt {m : Nat} (h : m < 2 ^ 63) : toInt64 m = m := by
  rw [toInt64, Nat.mod_eq_of_lt (by omega), if_pos h]

theorem toInt64_of_ge {m : Nat} (h : 2 ^ 63 ≤ m) (h' : m < 2 ^ 64) : toInt64 m = (m : Int) - 2 ^ 64 := by
  rw [toInt64, Nat.mod_eq_of_lt h', if_neg (by omega)]

theorem toInt64_toUInt64 {v : Int} (h1 : -2 ^ 63 ≤ v) (h2 : v < 2 ^ 63) : toInt64 (toUInt64 v) = v := by
  by_cases h0 : 0 ≤ v
  · have e := toUInt64_of_nonneg h0 (by omega)
    rw [toInt64_of_lt (by omega), e]
  · have e := toUInt64_neg h1 (by omega)
    rw [toInt64_of_ge (by omega) (by omega), e, Int.add_sub_cancel]

theorem unixMilli_exact (t : GoTime) (h1 : -2^63 ≤ t.sec * 1000 + t.nsec / 1000000) (h2 : t.sec * 1000 + t.nsec / 1000000 < 2^63) :
    t.unixMilli = t.sec * 1000 + ((t.nsec / 1000000 : Nat) : Int) :=
  toInt64_toUInt64 (by omega) (by omega)

theorem timeUnix_ofMillis (m : Nat) :
    timeUnix ((m : Int) / 1000) ((m : Int) % 1000 * 1000000) =
      { sec := ((m / 1000 : Nat) : Int), nsec := m % 1000 * 1000000 } := by
  unfold timeUnix
  congr 1 <;> omega

theorem unixMilli_ofMillis {m : Nat} (h : m < 2^63) :
    ({ sec := ((m / 1000 : Nat) : Int), nsec := m % 1000 * 1000000 } : GoTime).unixMilli = m := by
  have e : ((m / 1000 : Nat) : Int) * 1000 + ((m % 1000 * 1000000 / 1000000 : Nat) : Int) = m := by
    rw [Nat.mul_div_cancel _ (by decide)]; omega
  rw [unixMilli_exact _ (e ▸ by omega) (e ▸ by omega)]
  exact e

theorem dateFromTime_eq {t : GoTime} {m : Nat} (h : t.unixMilli = m) (hm : m < 2^64) : dateFromTime t = beEnc 8 m := by
  rw [dateFromTime, h, toUInt64_natCast hm]

/-- the special case for size 8 in `calculateMaxValueForSize` only avoids the overflow of `1 << 64` -/
theorem maxValueForSize_natCast {k : Nat} (hk8 : k ≤ 8) : maxValueForSize (k : Int) = 256 ^ k - 1 := by
  unfold maxValueForSize
  split
  · obtain rfl : k = 8 := by omega
    rfl
  · rw [Int.toNat_natCast, Nat.mul_comm, ← pow256]

theorem newInt_nat (m k : Nat) (hk1 : 1 ≤ k) (hk8 : k ≤ 8) (hm : m < 2^63) :
    newIntegerFromInt (m:Int) (k:Int) = if m < 256^k then some (beEnc k m) else none := by
  rw [newIntegerFromInt, if_neg (by omega), if_neg (by omega), toUInt64_natCast (by omega),
    maxValueForSize_natCast hk8, Int.toNat_natCast]
  have hpos : 0 < (256:Nat)^k := Nat.pow_pos (by decide)
  by_cases hlt : m < 256^k
  · rw [if_neg (by omega), if_pos hlt]
  · rw [if_pos (by omega), if_neg hlt]

theorem castlt (m k : Nat) : ((m:Int) < (256:Int) ^ k) ↔ m < 256 ^ k := by
  rw [← Int.ofNat_lt, Int.natCast_pow]; rfl

/-- `h63` holds of every Go `int` -/
theorem newIntegerFromInt_eq {v n : Int} (h63 : v < 2^63) :
    newIntegerFromInt v n =
      if 1 ≤ n ∧ n ≤ 8 ∧ 0 ≤ v ∧ v < 256 ^ n.toNat then some (beEnc n.toNat v.toNat) else none := by
  by_cases h : 1 ≤ n ∧ n ≤ 8 ∧ 0 ≤ v
  · obtain ⟨m, rfl⟩ := Int.eq_ofNat_of_zero_le h.2.2
    obtain ⟨k, rfl⟩ := Int.eq_ofNat_of_zero_le (show 0 ≤ n by omega)
    simp only [newInt_nat m k (by omega) (by omega) (by omega), Int.toNat_natCast, castlt, h, true_and]
  · rw [if_neg (fun h' => h ⟨h'.1, h'.2.1, h'.2.2.1⟩)]
    unfold newIntegerFromInt
    by_cases hv : v < 0
    · rw [if_pos hv]
    · rw [if_neg hv, if_pos (by omega)]

theorem newIntegerFromInt_some {v n : Int} {b : Bytes} (h : newIntegerFromInt v n = some b) :
    0 ≤ v ∧ 1 ≤ n ∧ n ≤ 8 ∧ toUInt64 v ≤ maxValueForSize n ∧ b = beEnc n.toNat (toUInt64 v) := by
  revert h
  fun_cases newIntegerFromInt v n <;> intro h <;> cases h
  exact ⟨by omega, by omega, by omega, by omega, rfl⟩

theorem intFromBytes_small {b : Bytes} (h1 : 1 ≤ b.length) (h8 : b.length ≤ 8) (h63 : beVal b < 2^63) :
    intFromBytes b = some (beVal b : Int) := by
  unfold intFromBytes
  rw [if_neg (by omega)]
  split
  · rfl
  · rw [List.take_of_length_le (by omega), toInt64_of_lt h63]

theorem intDecoders_small {b : Bytes} (h1 : 1 ≤ b.length) (h8 : b.length ≤ 8) (h63 : beVal b < 2^63) :
    integerInt b = beVal b ∧ integerIntSafe b = some (beVal b : Int) ∧ integerUintSafe b = some (beVal b) ∧
      decodeIntN b = some (beVal b : Int) := by
  have hi := intFromBytes_small h1 h8 h63
  refine ⟨?_, ?_, ?_, ?_⟩
  · rw [integerInt, hi]; rfl
  · rw [integerIntSafe, if_neg (by omega), hi]
  · rw [integerUintSafe, if_neg (by omega)]
  · rw [decodeIntN, if_neg (by omega), if_neg (by omega)]

theorem strDataOk_cons {l : UInt8} {c : Bytes} : strDataOk (l :: c) = true ↔ l.toNat = c.length := by
  rw [strDataOk, decide_eq_true_eq]

theorem strDataOk_iff {d : Bytes} : strDataOk d = true ↔ ∃ l rest, d = l :: rest ∧ l.toNat = rest.length := by
  cases d with
  | nil => exact ⟨nofun, nofun⟩
  | cons l rest =>
    rw [strDataOk_cons]
    exact ⟨fun h => ⟨l, rest, rfl, h⟩, by rintro ⟨_, _, ⟨⟩, h⟩; exact h⟩

theorem strData_of_not_ok {d : Bytes} (h : strDataOk d = false) : strData d = [] := by
  cases d with
  | nil => rfl
  | cons l rest => simp only [strDataOk, decide_eq_false_iff_not] at h; simp only [strData, if_neg h]

/-- `UInt8.ofNat s.length :: s` is what `newStr` (`NewI2PString`) returns -/
theorem strDataOk_enc (s : Bytes) (h : s.length ≤ 255) : strDataOk (UInt8.ofNat s.length :: s) = true :=
  strDataOk_cons.mpr (ofNat_toNat _ (Nat.lt_succ_of_le h))

theorem strData_enc (s : Bytes) (h : s.length ≤ 255) : strData (UInt8.ofNat s.length :: s) = s := by
  rw [strData, if_pos (ofNat_toNat _ (Nat.lt_succ_of_le h))]

theorem strDataOk_append {s r : Bytes} (hs : strDataOk s = true) (h : strDataOk (s ++ r) = true) : r = [] := by
  cases s with
  | nil => cases hs
  | cons l c =>
    rw [List.cons_append, strDataOk_cons, List.length_append, strDataOk_cons.mp hs] at h
    exact List.length_eq_zero_iff.mp (by omega)

theorem readStr_none_iff {d s r : Bytes} : readStr d = (s, r, none) ↔ strDataOk s = true ∧ s ++ r = d := by
  constructor
  · fun_cases readStr d
    · exact nofun
    · intro h; cases h
      exact ⟨strDataOk_cons.mpr (List.length_take_of_le ‹_›).symm, congrArg _ (List.take_append_drop ..)⟩
    · exact nofun
  · rintro ⟨hs, rfl⟩
    cases s with
    | nil => cases hs
    | cons l c =>
      have hl := (strDataOk_cons.mp hs).symm
      rw [List.cons_append, readStr, if_pos (by rw [List.length_append]; omega), List.take_left' hl, List.drop_left' hl]

theorem readStr_ok (s r : Bytes) (h : strDataOk s = true) : readStr (s ++ r) = (s, r, none) :=
  readStr_none_iff.mpr ⟨h, rfl⟩

theorem readStr_append {d s r : Bytes} {e : Option StrErr} (h : readStr d = (s, r, e)) : s ++ r = d := by
  revert h
  fun_cases readStr d <;> intro h <;> cases h
  · rfl
  · exact congrArg (_ :: ·) (List.take_append_drop ..)
  · exact List.append_nil _

theorem readStr_rem_cons {d s r : Bytes} {b : UInt8} {e : Option StrErr} (h : readStr d = (s, b :: r, e)) :
    e = none ∧ strDataOk s = true := by
  revert h
  fun_cases readStr d <;> intro h
  · cases h
  · obtain ⟨rfl, -, rfl⟩ := Prod.mk.inj h |>.imp id Prod.mk.inj
    exact ⟨rfl, strDataOk_cons.mpr (List.length_take_of_le ‹_›).symm⟩
  · cases h

theorem readStr_err_none {d : Bytes} (h : (readStr d).2.1 ≠ []) : (readStr d).2.2 = none := by
  obtain ⟨b, r, hr⟩ := List.exists_cons_of_ne_nil h
  exact (readStr_rem_cons (s := (readStr d).1) (e := (readStr d).2.2) (by rw [← hr])).1

theorem newStrFromBytes_some {d s : Bytes} : newStrFromBytes d = some s ↔ strDataOk s = true ∧ s = d := by
  cases d with
  | nil => exact ⟨nofun, fun ⟨h, e⟩ => by subst e; cases h⟩
  | cons l c =>
    rw [newStrFromBytes, Option.ite_none_left_eq_some, Option.some.injEq, Decidable.not_not, eq_comm (a := c.length), ← strDataOk_cons]
    exact ⟨fun ⟨h, e⟩ => e ▸ ⟨h, rfl⟩, fun ⟨h, e⟩ => e ▸ ⟨e ▸ h, rfl⟩⟩

end I2P
