import I2P.Proofs.BytesLemmas

/-! # Lawful byte codecs and combinators (specification layer)

A `Codec α` packages a reader, a writer and a well-formedness predicate with three primitive laws
(`consumed`, `complete`, `sound`).  Append-stability, prefix-freeness and the round trips are derived
once for all codecs; every combinator below is a `def … : Codec …` with all three laws proved.
Core-only (no Mathlib). -/

namespace I2P.Spec

/-- A reader/writer pair for values of type `α` with the three primitive laws. -/
structure Codec (α : Type) where
  /-- parse a value from the front of `w`, returning the remainder -/
  read  : Bytes → Option (α × Bytes)
  /-- serialise -/
  write : α → Bytes
  /-- the values that have a wire representation -/
  wf    : α → Prop
  /-- the reader consumed exactly the serialisation of what it returned -/
  consumed : ∀ {w a r}, read w = some (a, r) → write a ++ r = w
  /-- every well-formed value is read back, whatever follows -/
  complete : ∀ {a} (x : Bytes), wf a → read (write a ++ x) = some (a, x)
  /-- the reader only returns well-formed values -/
  sound    : ∀ {w a r}, read w = some (a, r) → wf a

namespace Codec

variable {α β : Type}

/-- Append-stability: bytes after a successful parse are passed through untouched. -/
theorem append (c : Codec α) {w : Bytes} {a : α} {r : Bytes} (x : Bytes)
    (h : c.read w = some (a, r)) : c.read (w ++ x) = some (a, r ++ x) := by
  have h1 := c.consumed h
  have h2 := c.sound h
  rw [← h1, List.append_assoc]
  exact c.complete _ h2

theorem read_write (c : Codec α) {a : α} (h : c.wf a) : c.read (c.write a) = some (a, []) := by
  have := c.complete [] h
  rwa [List.append_nil] at this

theorem write_read (c : Codec α) {w : Bytes} {a : α} (h : c.read w = some (a, [])) :
    c.write a = w := by
  have := c.consumed h
  rwa [List.append_nil] at this

/-- The reader is deterministic in the strong sense: the result determines the split of the input. -/
theorem read_eq_iff (c : Codec α) {w : Bytes} {a : α} {r : Bytes} :
    c.read w = some (a, r) ↔ c.wf a ∧ c.write a ++ r = w := by
  constructor
  · intro h; exact ⟨c.sound h, c.consumed h⟩
  · intro ⟨h1, h2⟩; rw [← h2]; exact c.complete _ h1

/-- No proper prefix of a fully consumed input parses at all. -/
theorem no_prefix (c : Codec α) {w : Bytes} {a : α} (h : c.read w = some (a, []))
    {k : Nat} (hk : k < w.length) : c.read (w.take k) = none :=
  no_prefix_of_append' c.read (·.2) (fun h x => ⟨_, c.append x h, rfl⟩) h rfl hk

theorem write_append_inj (c : Codec α) {a b : α} {x y : Bytes} (ha : c.wf a) (hb : c.wf b)
    (h : c.write a ++ x = c.write b ++ y) : a = b ∧ x = y := by
  have h1 := c.complete x ha
  rw [h, c.complete y hb] at h1
  cases h1
  exact ⟨rfl, rfl⟩

/-- `write` is injective on well-formed values. -/
theorem write_inj (c : Codec α) {a b : α} (ha : c.wf a) (hb : c.wf b)
    (h : c.write a = c.write b) : a = b :=
  (c.write_append_inj (x := []) (y := []) ha hb (by rw [h])).1

/-- An encoding is never a proper prefix of another encoding. -/
theorem write_prefix_free (c : Codec α) {a b : α} {x : Bytes} (ha : c.wf a) (hb : c.wf b)
    (h : c.write a ++ x = c.write b) : a = b ∧ x = [] :=
  c.write_append_inj (y := []) ha hb (by rw [h, List.append_nil])

/-- A successful read never returns more bytes than it was given. -/
theorem read_length (c : Codec α) {w : Bytes} {a : α} {r : Bytes} (h : c.read w = some (a, r)) :
    w.length = (c.write a).length + r.length := by
  rw [← c.consumed h, List.length_append]

end Codec

variable {α β : Type}

/-- Every reader below is written `match o with | none => none | some (a, r) => k a r`; this is its
    inversion, from which `consumed` and `sound` of each combinator follow without a case split. -/
theorem bind_some {γ : Type} {o : Option (α × Bytes)} {k : α → Bytes → Option γ} {c : γ} :
    (match o with
      | none => none
      | some (a, r) => k a r) = some c ↔ ∃ a r, o = some (a, r) ∧ k a r = some c := by
  cases o with
  | none => exact ⟨nofun, fun ⟨_, _, h, _⟩ => nomatch h⟩
  | some p => exact ⟨fun h => ⟨p.1, p.2, rfl, h⟩, fun ⟨_, _, h, hk⟩ => by cases h; exact hk⟩

/-- Same codec with the well-formedness predicate replaced by an equivalent one (so that derived
    codecs get a readable, definitional `wf`). -/
def withWf (A : Codec α) (p : α → Prop) (h : ∀ a, A.wf a ↔ p a) : Codec α where
  read := A.read
  write := A.write
  wf := p
  consumed := A.consumed
  complete := fun x hp => A.complete x ((h _).2 hp)
  sound := fun hr => (h _).1 (A.sound hr)

theorem withWf_read (A : Codec α) (p h) (w : Bytes) : (withWf A p h).read w = A.read w := rfl
@[simp] theorem withWf_write (A : Codec α) (p h) (a : α) : (withWf A p h).write a = A.write a := rfl
@[simp] theorem withWf_wf (A : Codec α) (p h) (a : α) : (withWf A p h).wf a = p a := rfl

/-- exactly `n` raw bytes -/
def bytesN (n : Nat) : Codec Bytes where
  read w := if n ≤ w.length then some (w.take n, w.drop n) else none
  write b := b
  wf b := b.length = n
  consumed := by
    intro w a r h
    obtain ⟨_, h⟩ := Option.ite_some_none_eq_some.1 h
    cases h
    exact List.take_append_drop _ _
  complete := by
    intro a x h
    rw [if_pos (by rw [List.length_append]; omega), List.take_left' h, List.drop_left' h]
  sound := by
    intro w a r h
    obtain ⟨hn, h⟩ := Option.ite_some_none_eq_some.1 h
    cases h
    exact List.length_take_of_le hn

theorem bytesN_read (n : Nat) (w : Bytes) :
    (bytesN n).read w = if n ≤ w.length then some (w.take n, w.drop n) else none := rfl
@[simp] theorem bytesN_write (n : Nat) (b : Bytes) : (bytesN n).write b = b := rfl
@[simp] theorem bytesN_wf (n : Nat) (b : Bytes) : (bytesN n).wf b = (b.length = n) := rfl

/-- `n`-byte big-endian unsigned integer -/
def beInt (n : Nat) : Codec Nat where
  read w := if n ≤ w.length then some (beVal (w.take n), w.drop n) else none
  write v := beEnc n v
  wf v := v < 256 ^ n
  consumed := by
    intro w a r h
    obtain ⟨hn, h⟩ := Option.ite_some_none_eq_some.1 h
    cases h
    have := beEnc_beVal (w.take n)
    rw [List.length_take_of_le hn] at this
    rw [this, List.take_append_drop]
  complete := by
    intro a x h
    have hl : (beEnc n a).length = n := beEnc_length n a
    rw [if_pos (by rw [List.length_append]; omega), List.take_left' hl, List.drop_left' hl, beVal_beEnc n a h]
  sound := by
    intro w a r h
    obtain ⟨hn, h⟩ := Option.ite_some_none_eq_some.1 h
    cases h
    have := beVal_lt (w.take n)
    rwa [List.length_take_of_le hn] at this

theorem beInt_read (n : Nat) (w : Bytes) :
    (beInt n).read w = if n ≤ w.length then some (beVal (w.take n), w.drop n) else none := rfl
@[simp] theorem beInt_write (n v : Nat) : (beInt n).write v = beEnc n v := rfl
@[simp] theorem beInt_wf (n v : Nat) : (beInt n).wf v = (v < 256 ^ n) := rfl

/-- one byte -/
def byte : Codec UInt8 where
  read w := match w with
    | [] => none
    | b :: r => some (b, r)
  write b := [b]
  wf _ := True
  consumed := by
    intro w a r h
    cases w with
    | nil => contradiction
    | cons b t => cases h; rfl
  complete := by
    intro a x _
    rfl
  sound := by
    intros
    trivial

theorem byte_read_nil : byte.read [] = none := rfl
theorem byte_read_cons (b : UInt8) (r : Bytes) : byte.read (b :: r) = some (b, r) := rfl
@[simp] theorem byte_write (b : UInt8) : byte.write b = [b] := rfl
@[simp] theorem byte_wf (b : UInt8) : byte.wf b = True := rfl

/-- exactly the literal bytes `bs` (delimiters) -/
def const (bs : Bytes) : Codec Unit where
  read w := if w.take bs.length = bs then some ((), w.drop bs.length) else none
  write _ := bs
  wf _ := True
  consumed := by
    intro w a r h
    obtain ⟨hp, h⟩ := Option.ite_some_none_eq_some.1 h
    cases h
    have := List.take_append_drop bs.length w
    rwa [hp] at this
  complete := by
    intro a x _
    rw [if_pos (List.take_left' rfl), List.drop_left' rfl]
  sound := by
    intros
    trivial

theorem const_read (bs w : Bytes) :
    (const bs).read w = if w.take bs.length = bs then some ((), w.drop bs.length) else none := rfl
@[simp] theorem const_write (bs : Bytes) (u : Unit) : (const bs).write u = bs := rfl
@[simp] theorem const_wf (bs : Bytes) (u : Unit) : (const bs).wf u = True := rfl

/-- Dependent sequencing: the codec of the second component is chosen by the first value. -/
def dpair (A : Codec α) (B : α → Codec β) : Codec (α × β) where
  read w := match A.read w with
    | none => none
    | some (a, r) => match (B a).read r with
      | none => none
      | some (b, r') => some ((a, b), r')
  write p := A.write p.1 ++ (B p.1).write p.2
  wf p := A.wf p.1 ∧ (B p.1).wf p.2
  consumed := by
    intro w p r h
    obtain ⟨a, r1, hA, h⟩ := bind_some.1 h
    obtain ⟨b, r2, hB, h⟩ := bind_some.1 h
    cases h
    rw [List.append_assoc, (B a).consumed hB, A.consumed hA]
  complete := by
    intro p x h
    rw [List.append_assoc]
    exact bind_some.2 ⟨_, _, A.complete _ h.1, bind_some.2 ⟨_, _, (B _).complete x h.2, rfl⟩⟩
  sound := by
    intro w p r h
    obtain ⟨a, r1, hA, h⟩ := bind_some.1 h
    obtain ⟨b, r2, hB, h⟩ := bind_some.1 h
    cases h
    exact ⟨A.sound hA, (B a).sound hB⟩

theorem dpair_read (A : Codec α) (B : α → Codec β) (w : Bytes) :
    (dpair A B).read w = match A.read w with
      | none => none
      | some (a, r) => match (B a).read r with
        | none => none
        | some (b, r') => some ((a, b), r') := rfl
@[simp] theorem dpair_write (A : Codec α) (B : α → Codec β) (a : α) (b : β) :
    (dpair A B).write (a, b) = A.write a ++ (B a).write b := rfl
@[simp] theorem dpair_wf (A : Codec α) (B : α → Codec β) (a : α) (b : β) :
    (dpair A B).wf (a, b) = (A.wf a ∧ (B a).wf b) := rfl

theorem dpair_read_eq_some (A : Codec α) (B : α → Codec β) {w : Bytes} {a : α} {b : β} {r : Bytes} :
    (dpair A B).read w = some ((a, b), r) ↔
      ∃ r1, A.read w = some (a, r1) ∧ (B a).read r1 = some (b, r) := by
  constructor
  · intro h
    obtain ⟨a', r1, hA, h⟩ := bind_some.1 h
    obtain ⟨b', r2, hB, h⟩ := bind_some.1 h
    cases h
    exact ⟨r1, hA, hB⟩
  · intro ⟨r1, h1, h2⟩
    exact bind_some.2 ⟨_, _, h1, bind_some.2 ⟨_, _, h2, rfl⟩⟩

/-- Sequencing of two independent codecs. -/
def pair (A : Codec α) (B : Codec β) : Codec (α × β) := dpair A (fun _ => B)

/-- alias of `pair` -/
abbrev seq (A : Codec α) (B : Codec β) : Codec (α × β) := pair A B

theorem pair_read (A : Codec α) (B : Codec β) (w : Bytes) :
    (pair A B).read w = match A.read w with
      | none => none
      | some (a, r) => match B.read r with
        | none => none
        | some (b, r') => some ((a, b), r') := rfl
@[simp] theorem pair_write (A : Codec α) (B : Codec β) (a : α) (b : β) :
    (pair A B).write (a, b) = A.write a ++ B.write b := rfl
@[simp] theorem pair_wf (A : Codec α) (B : Codec β) (a : α) (b : β) :
    (pair A B).wf (a, b) = (A.wf a ∧ B.wf b) := rfl

theorem pair_read_eq_some (A : Codec α) (B : Codec β) {w : Bytes} {a : α} {b : β} {r : Bytes} :
    (pair A B).read w = some ((a, b), r) ↔
      ∃ r1, A.read w = some (a, r1) ∧ B.read r1 = some (b, r) :=
  dpair_read_eq_some A (fun _ => B)

/-- Transport along a map that is a bijection between the well-formed values of `A` and `β`. -/
def isoOn (A : Codec α) (f : α → β) (g : β → α) (hfg : ∀ b, f (g b) = b)
    (hgf : ∀ a, A.wf a → g (f a) = a) : Codec β where
  read w := match A.read w with
    | none => none
    | some (a, r) => some (f a, r)
  write b := A.write (g b)
  wf b := A.wf (g b)
  consumed := by
    intro w b r h
    obtain ⟨a, r1, hA, h⟩ := bind_some.1 h
    cases h
    rw [hgf a (A.sound hA)]
    exact A.consumed hA
  complete := by
    intro b x h
    exact bind_some.2 ⟨_, _, A.complete x h, by rw [hfg]⟩
  sound := by
    intro w b r h
    obtain ⟨a, r1, hA, h⟩ := bind_some.1 h
    cases h
    rw [hgf a (A.sound hA)]
    exact A.sound hA

theorem isoOn_read (A : Codec α) (f : α → β) (g hfg hgf) (w : Bytes) :
    (isoOn A f g hfg hgf).read w = match A.read w with
      | none => none
      | some (a, r) => some (f a, r) := rfl
@[simp] theorem isoOn_write (A : Codec α) (f : α → β) (g hfg hgf) (b : β) :
    (isoOn A f g hfg hgf).write b = A.write (g b) := rfl
@[simp] theorem isoOn_wf (A : Codec α) (f : α → β) (g hfg hgf) (b : β) :
    (isoOn A f g hfg hgf).wf b = A.wf (g b) := rfl

/-- Transport along a bijection. -/
def iso (A : Codec α) (f : α → β) (g : β → α) (hfg : ∀ b, f (g b) = b) (hgf : ∀ a, g (f a) = a) :
    Codec β := isoOn A f g hfg (fun a _ => hgf a)

theorem iso_read (A : Codec α) (f : α → β) (g hfg hgf) (w : Bytes) :
    (iso A f g hfg hgf).read w = match A.read w with
      | none => none
      | some (a, r) => some (f a, r) := rfl
@[simp] theorem iso_write (A : Codec α) (f : α → β) (g hfg hgf) (b : β) :
    (iso A f g hfg hgf).write b = A.write (g b) := rfl
@[simp] theorem iso_wf (A : Codec α) (f : α → β) (g hfg hgf) (b : β) :
    (iso A f g hfg hgf).wf b = A.wf (g b) := rfl

/-- Same wire format; the read fails unless `p` holds of the value. -/
def guard (A : Codec α) (p : α → Bool) : Codec α where
  read w := match A.read w with
    | none => none
    | some (a, r) => if p a then some (a, r) else none
  write := A.write
  wf a := A.wf a ∧ p a = true
  consumed := by
    intro w b r h
    obtain ⟨a, r1, hA, h⟩ := bind_some.1 h
    obtain ⟨_, h⟩ := Option.ite_some_none_eq_some.1 h
    cases h
    exact A.consumed hA
  complete := by
    intro a x h
    exact bind_some.2 ⟨_, _, A.complete x h.1, if_pos h.2⟩
  sound := by
    intro w b r h
    obtain ⟨a, r1, hA, h⟩ := bind_some.1 h
    obtain ⟨hp, h⟩ := Option.ite_some_none_eq_some.1 h
    cases h
    exact ⟨A.sound hA, hp⟩

theorem guard_read (A : Codec α) (p : α → Bool) (w : Bytes) :
    (guard A p).read w = match A.read w with
      | none => none
      | some (a, r) => if p a then some (a, r) else none := rfl
@[simp] theorem guard_write (A : Codec α) (p : α → Bool) (a : α) :
    (guard A p).write a = A.write a := rfl
@[simp] theorem guard_wf (A : Codec α) (p : α → Bool) (a : α) :
    (guard A p).wf a = (A.wf a ∧ p a = true) := rfl

/-- Present iff `p`: if `p` reads `A` and returns `some`, else reads nothing and returns `none`. -/
def optionalIf (p : Bool) (A : Codec α) : Codec (Option α) where
  read w := if p then
      match A.read w with
      | none => none
      | some (a, r) => some (some a, r)
    else some (none, w)
  write o := match o with
    | some a => A.write a
    | none => []
  wf o := match o with
    | some a => p = true ∧ A.wf a
    | none => p = false
  consumed := by
    intro w o r h
    cases p with
    | false => cases h; rfl
    | true =>
      obtain ⟨a, r1, hA, h⟩ := bind_some.1 h
      cases h
      exact A.consumed hA
  complete := by
    intro o x h
    cases o with
    | none => cases (h : p = false); rfl
    | some a =>
      obtain ⟨rfl, h2⟩ := (h : p = true ∧ A.wf a)
      exact bind_some.2 ⟨_, _, A.complete x h2, rfl⟩
  sound := by
    intro w o r h
    cases p with
    | false => cases h; rfl
    | true =>
      obtain ⟨a, r1, hA, h⟩ := bind_some.1 h
      cases h
      exact ⟨rfl, A.sound hA⟩

theorem optionalIf_read (p : Bool) (A : Codec α) (w : Bytes) :
    (optionalIf p A).read w = if p then
      match A.read w with
      | none => none
      | some (a, r) => some (some a, r)
    else some (none, w) := rfl
theorem optionalIf_read_false (A : Codec α) (w : Bytes) :
    (optionalIf false A).read w = some (none, w) := rfl
theorem optionalIf_read_true (A : Codec α) (w : Bytes) :
    (optionalIf true A).read w = match A.read w with
      | none => none
      | some (a, r) => some (some a, r) := rfl
@[simp] theorem optionalIf_write_some (p : Bool) (A : Codec α) (a : α) :
    (optionalIf p A).write (some a) = A.write a := rfl
@[simp] theorem optionalIf_write_none (p : Bool) (A : Codec α) :
    (optionalIf p A).write none = [] := rfl
theorem optionalIf_write (p : Bool) (A : Codec α) (o : Option α) :
    (optionalIf p A).write o = match o with
      | some a => A.write a
      | none => [] := rfl
@[simp] theorem optionalIf_wf_some (p : Bool) (A : Codec α) (a : α) :
    (optionalIf p A).wf (some a) = (p = true ∧ A.wf a) := rfl
@[simp] theorem optionalIf_wf_none (p : Bool) (A : Codec α) :
    (optionalIf p A).wf none = (p = false) := rfl
theorem optionalIf_wf (p : Bool) (A : Codec α) (o : Option α) :
    (optionalIf p A).wf o = match o with
      | some a => p = true ∧ A.wf a
      | none => p = false := rfl

theorem through_inv {B : Codec Bytes} {A : Codec α} {w : Bytes} {a : α} {r : Bytes}
    (h : (match B.read w with
      | none => none
      | some (body, r) => match A.read body with
        | none => none
        | some (a, r') => match r' with
          | [] => some (a, r)
          | _ :: _ => none) = some (a, r)) :
    ∃ body, B.read w = some (body, r) ∧ A.read body = some (a, []) := by
  split at h
  · contradiction
  · next body r1 hB =>
    obtain ⟨a', r2, hA, h⟩ := bind_some.1 h
    cases r2 with
    | cons _ _ => contradiction
    | nil => cases h; exact ⟨body, hB, hA⟩

/-- Read a byte string with `B`, then parse it *entirely* with `A`. -/
def through (B : Codec Bytes) (A : Codec α) : Codec α where
  read w := match B.read w with
    | none => none
    | some (body, r) => match A.read body with
      | none => none
      | some (a, r') => match r' with
        | [] => some (a, r)
        | _ :: _ => none
  write a := B.write (A.write a)
  wf a := A.wf a ∧ B.wf (A.write a)
  consumed := by
    intro w a r h
    obtain ⟨body, hB, hA⟩ := through_inv h
    rw [A.write_read hA]
    exact B.consumed hB
  complete := by
    intro a x h
    simp only [B.complete x h.2, A.read_write h.1]
  sound := by
    intro w a r h
    obtain ⟨body, hB, hA⟩ := through_inv h
    refine ⟨A.sound hA, ?_⟩
    rw [A.write_read hA]
    exact B.sound hB

theorem through_read (B : Codec Bytes) (A : Codec α) (w : Bytes) :
    (through B A).read w = match B.read w with
      | none => none
      | some (body, r) => match A.read body with
        | none => none
        | some (a, r') => match r' with
          | [] => some (a, r)
          | _ :: _ => none := rfl
@[simp] theorem through_write (B : Codec Bytes) (A : Codec α) (a : α) :
    (through B A).write a = B.write (A.write a) := rfl
@[simp] theorem through_wf (B : Codec Bytes) (A : Codec α) (a : α) :
    (through B A).wf a = (A.wf a ∧ B.wf (A.write a)) := rfl

theorem through_read_eq_some (B : Codec Bytes) (A : Codec α) {w : Bytes} {a : α} {r : Bytes} :
    (through B A).read w = some (a, r) ↔
      ∃ body, B.read w = some (body, r) ∧ A.read body = some (a, []) :=
  ⟨through_inv, fun ⟨_, h1, h2⟩ => by simp only [through_read, h1, h2]⟩

/-- the reader of "a header `H`, then a body whose codec the header chooses, the header dropped":
    the shape of `lenPrefixed` and `counted` -/
theorem isoOn_dpair_snd_read (H : Codec α) (F : α → Codec β) (g hfg hgf) (w : Bytes) :
    (isoOn (dpair H F) Prod.snd g hfg hgf).read w = match H.read w with
      | none => none
      | some (n, r) => (F n).read r := by
  rw [isoOn_read, dpair_read]
  cases H.read w with
  | none => rfl
  | some q => dsimp only; cases (F q.1).read q.2 <;> rfl

/-- `k`-byte big-endian length, then that many bytes (`k = 1`: the I2P String). -/
def lenPrefixed (k : Nat) : Codec Bytes :=
  withWf
    (isoOn (dpair (beInt k) bytesN) Prod.snd (fun b => (b.length, b)) (fun _ => rfl)
      (by
        intro p h
        obtain ⟨n, b⟩ := p
        have h2 : b.length = n := h.2
        subst h2
        rfl))
    (fun b => b.length < 256 ^ k)
    (by
      intro b
      constructor
      · intro h; exact h.1
      · intro h; exact ⟨h, rfl⟩)

@[simp] theorem lenPrefixed_write (k : Nat) (b : Bytes) :
    (lenPrefixed k).write b = beEnc k b.length ++ b := rfl
@[simp] theorem lenPrefixed_wf (k : Nat) (b : Bytes) :
    (lenPrefixed k).wf b = (b.length < 256 ^ k) := rfl

theorem lenPrefixed_read (k : Nat) (w : Bytes) :
    (lenPrefixed k).read w =
      if k ≤ w.length then
        if beVal (w.take k) ≤ (w.drop k).length then
          some ((w.drop k).take (beVal (w.take k)), (w.drop k).drop (beVal (w.take k)))
        else none
      else none := by
  unfold lenPrefixed
  rw [withWf_read, isoOn_dpair_snd_read, beInt_read]
  by_cases h1 : k ≤ w.length
  · rw [if_pos h1, if_pos h1]; rfl
  · rw [if_neg h1, if_neg h1]

/-- `k`-byte big-endian length `L`, then exactly `L` bytes which `A` must consume entirely. -/
def within (k : Nat) (A : Codec α) : Codec α := through (lenPrefixed k) A

theorem within_read (k : Nat) (A : Codec α) (w : Bytes) :
    (within k A).read w = match (lenPrefixed k).read w with
      | none => none
      | some (body, r) => match A.read body with
        | none => none
        | some (a, r') => match r' with
          | [] => some (a, r)
          | _ :: _ => none := rfl
@[simp] theorem within_write (k : Nat) (A : Codec α) (a : α) :
    (within k A).write a = beEnc k (A.write a).length ++ A.write a := rfl
@[simp] theorem within_wf (k : Nat) (A : Codec α) (a : α) :
    (within k A).wf a = (A.wf a ∧ (A.write a).length < 256 ^ k) := rfl

theorem within_read_eq_some (k : Nat) (A : Codec α) {w : Bytes} {a : α} {r : Bytes} :
    (within k A).read w = some (a, r) ↔
      ∃ body, (lenPrefixed k).read w = some (body, r) ∧ A.read body = some (a, []) :=
  through_read_eq_some (lenPrefixed k) A

/-- read exactly `n` elements with the reader `rd` -/
def readN (rd : Bytes → Option (α × Bytes)) : Nat → Bytes → Option (List α × Bytes)
  | 0, w => some ([], w)
  | n+1, w => match rd w with
    | none => none
    | some (a, r) => match readN rd n r with
      | none => none
      | some (l, r') => some (a :: l, r')

/-- concatenated encodings of a list -/
def writeAll (A : Codec α) : List α → Bytes
  | [] => []
  | a :: l => A.write a ++ writeAll A l

theorem readN_zero (rd : Bytes → Option (α × Bytes)) (w : Bytes) : readN rd 0 w = some ([], w) := rfl
theorem readN_succ (rd : Bytes → Option (α × Bytes)) (n : Nat) (w : Bytes) :
    readN rd (n+1) w = match rd w with
      | none => none
      | some (a, r) => match readN rd n r with
        | none => none
        | some (l, r') => some (a :: l, r') := rfl

@[simp] theorem writeAll_nil (A : Codec α) : writeAll A [] = [] := rfl
@[simp] theorem writeAll_cons (A : Codec α) (a : α) (l : List α) :
    writeAll A (a :: l) = A.write a ++ writeAll A l := rfl
theorem writeAll_append (A : Codec α) (l₁ l₂ : List α) :
    writeAll A (l₁ ++ l₂) = writeAll A l₁ ++ writeAll A l₂ := by
  induction l₁ with
  | nil => rfl
  | cons a t ih => simp only [List.cons_append, writeAll_cons, ih, List.append_assoc]
theorem writeAll_eq_flatMap (A : Codec α) (l : List α) : writeAll A l = l.flatMap A.write := by
  induction l with
  | nil => rfl
  | cons a t ih => rw [writeAll_cons, List.flatMap_cons, ih]
theorem writeAll_length_const (A : Codec α) (m : Nat) (l : List α)
    (h : ∀ a ∈ l, (A.write a).length = m) : (writeAll A l).length = l.length * m := by
  induction l with
  | nil => simp
  | cons a t ih =>
    have h1 := h a (List.mem_cons_self ..)
    have h2 := ih (fun b hb => h b (List.mem_cons_of_mem _ hb))
    rw [writeAll_cons, List.length_append, h1, h2, List.length_cons, Nat.succ_mul, Nat.add_comm]

theorem readN_succ_some (A : Codec α) {n : Nat} {w : Bytes} {l : List α} {r : Bytes}
    (h : readN A.read (n+1) w = some (l, r)) :
    ∃ a r1 l', A.read w = some (a, r1) ∧ readN A.read n r1 = some (l', r) ∧ l = a :: l' := by
  obtain ⟨a, r1, hA, h⟩ := bind_some.1 h
  split at h
  · contradiction
  · next l' r2 hR => cases h; exact ⟨a, r1, l', hA, hR, rfl⟩

theorem readN_consumed (A : Codec α) : ∀ (n : Nat) {w : Bytes} {l : List α} {r : Bytes},
    readN A.read n w = some (l, r) → writeAll A l ++ r = w := by
  intro n
  induction n with
  | zero => intro w l r h; cases h; rfl
  | succ n ih =>
    intro w l r h
    obtain ⟨a, r1, l', hA, hR, rfl⟩ := readN_succ_some A h
    rw [writeAll_cons, List.append_assoc, ih hR, A.consumed hA]

theorem readN_sound (A : Codec α) : ∀ (n : Nat) {w : Bytes} {l : List α} {r : Bytes},
    readN A.read n w = some (l, r) → l.length = n ∧ ∀ a ∈ l, A.wf a := by
  intro n
  induction n with
  | zero => intro w l r h; cases h; exact ⟨rfl, nofun⟩
  | succ n ih =>
    intro w l r h
    obtain ⟨a, r1, l', hA, hR, rfl⟩ := readN_succ_some A h
    have ⟨i1, i2⟩ := ih hR
    exact ⟨by rw [List.length_cons, i1], List.forall_mem_cons.2 ⟨A.sound hA, i2⟩⟩

theorem readN_complete (A : Codec α) : ∀ (l : List α) (x : Bytes), (∀ a ∈ l, A.wf a) →
    readN A.read l.length (writeAll A l ++ x) = some (l, x) := by
  intro l
  induction l with
  | nil => intro x _; rfl
  | cons a t ih =>
    intro x h
    have ⟨ha, ht⟩ := List.forall_mem_cons.1 h
    simp only [List.length_cons, readN_succ, writeAll_cons, List.append_assoc, A.complete _ ha, ih x ht]

/-- exactly `n` elements, one after the other -/
def repeatN (n : Nat) (A : Codec α) : Codec (List α) where
  read := readN A.read n
  write := writeAll A
  wf l := l.length = n ∧ ∀ a ∈ l, A.wf a
  consumed := readN_consumed A n
  complete := by
    intro l x h
    obtain ⟨h1, h2⟩ := h
    subst h1
    exact readN_complete A l x h2
  sound := readN_sound A n

theorem repeatN_read (n : Nat) (A : Codec α) (w : Bytes) :
    (repeatN n A).read w = readN A.read n w := rfl
theorem repeatN_read_zero (A : Codec α) (w : Bytes) : (repeatN 0 A).read w = some ([], w) := rfl
theorem repeatN_read_succ (n : Nat) (A : Codec α) (w : Bytes) :
    (repeatN (n+1) A).read w = match A.read w with
      | none => none
      | some (a, r) => match (repeatN n A).read r with
        | none => none
        | some (l, r') => some (a :: l, r') := rfl
@[simp] theorem repeatN_write (n : Nat) (A : Codec α) (l : List α) :
    (repeatN n A).write l = writeAll A l := rfl
@[simp] theorem repeatN_wf (n : Nat) (A : Codec α) (l : List α) :
    (repeatN n A).wf l = (l.length = n ∧ ∀ a ∈ l, A.wf a) := rfl

/-- `k`-byte big-endian count `n` with `lo ≤ n ≤ hi`, then `n` elements. -/
def counted (k lo hi : Nat) (A : Codec α) : Codec (List α) :=
  withWf
    (isoOn
      (dpair (guard (beInt k) (fun n => decide (lo ≤ n) && decide (n ≤ hi))) (fun n => repeatN n A))
      Prod.snd (fun l => (l.length, l)) (fun _ => rfl)
      (by
        intro p h
        obtain ⟨n, l⟩ := p
        have h2 : l.length = n := h.2.1
        subst h2
        rfl))
    (fun l => lo ≤ l.length ∧ l.length ≤ hi ∧ l.length < 256 ^ k ∧ ∀ a ∈ l, A.wf a)
    (by
      intro l
      show (l.length < 256 ^ k ∧ (decide (lo ≤ l.length) && decide (l.length ≤ hi)) = true) ∧
        l.length = l.length ∧ (∀ a ∈ l, A.wf a) ↔ _
      rw [Bool.and_eq_true, decide_eq_true_eq, decide_eq_true_eq]
      exact ⟨fun ⟨⟨h3, h1, h2⟩, _, h4⟩ => ⟨h1, h2, h3, h4⟩, fun ⟨h1, h2, h3, h4⟩ => ⟨⟨h3, h1, h2⟩, rfl, h4⟩⟩)

@[simp] theorem counted_write (k lo hi : Nat) (A : Codec α) (l : List α) :
    (counted k lo hi A).write l = beEnc k l.length ++ writeAll A l := rfl
@[simp] theorem counted_wf (k lo hi : Nat) (A : Codec α) (l : List α) :
    (counted k lo hi A).wf l =
      (lo ≤ l.length ∧ l.length ≤ hi ∧ l.length < 256 ^ k ∧ ∀ a ∈ l, A.wf a) := rfl

theorem counted_wf_iff {k lo hi : Nat} (hk : hi < 256 ^ k) (A : Codec α) (l : List α) :
    (counted k lo hi A).wf l ↔ lo ≤ l.length ∧ l.length ≤ hi ∧ ∀ a ∈ l, A.wf a := by
  rw [counted_wf]
  exact ⟨fun ⟨h1, h2, _, h4⟩ => ⟨h1, h2, h4⟩, fun ⟨h1, h2, h4⟩ => ⟨h1, h2, by omega, h4⟩⟩

theorem counted_read (k lo hi : Nat) (A : Codec α) (w : Bytes) :
    (counted k lo hi A).read w =
      if k ≤ w.length then
        if lo ≤ beVal (w.take k) ∧ beVal (w.take k) ≤ hi then
          (repeatN (beVal (w.take k)) A).read (w.drop k)
        else none
      else none := by
  unfold counted
  rw [withWf_read, isoOn_dpair_snd_read, guard_read, beInt_read]
  by_cases h1 : k ≤ w.length
  · rw [if_pos h1, if_pos h1]
    simp only [Bool.and_eq_true, decide_eq_true_eq]
    by_cases h2 : lo ≤ beVal (w.take k) ∧ beVal (w.take k) ≤ hi
    · rw [if_pos h2, if_pos h2]
    · rw [if_neg h2, if_neg h2]
  · rw [if_neg h1, if_neg h1]

/-! zero or more elements filling a length-prefixed body (the I2P Mapping body) -/

/-- Parse `w` entirely as zero or more `A`-encodings back to back (fuel: one unit per element;
    `w.length` always suffices when encodings are non-empty). -/
def readAll (A : Codec α) : (fuel : Nat) → Bytes → Option (List α)
  | _, [] => some []
  | 0, _ :: _ => none
  | fuel+1, b :: t => match A.read (b :: t) with
    | none => none
    | some (a, r) => match readAll A fuel r with
      | none => none
      | some l => some (a :: l)

theorem readAll_nil (A : Codec α) (fuel : Nat) : readAll A fuel [] = some [] := by
  cases fuel <;> rfl
theorem readAll_zero_cons (A : Codec α) (b : UInt8) (t : Bytes) : readAll A 0 (b :: t) = none := rfl
theorem readAll_succ_cons (A : Codec α) (fuel : Nat) (b : UInt8) (t : Bytes) :
    readAll A (fuel+1) (b :: t) = match A.read (b :: t) with
      | none => none
      | some (a, r) => match readAll A fuel r with
        | none => none
        | some l => some (a :: l) := rfl
theorem readAll_succ_of_ne_nil (A : Codec α) (fuel : Nat) {w : Bytes} (hw : w ≠ []) :
    readAll A (fuel+1) w = match A.read w with
      | none => none
      | some (a, r) => match readAll A fuel r with
        | none => none
        | some l => some (a :: l) := by
  cases w with
  | nil => exact absurd rfl hw
  | cons b t => rfl
/-- the `Option.map` form of the step equation -/
theorem readAll_succ_of_ne_nil' (A : Codec α) (fuel : Nat) {w : Bytes} (hw : w ≠ []) :
    readAll A (fuel+1) w = match A.read w with
      | none => none
      | some (a, r) => (readAll A fuel r).map (a :: ·) := by
  rw [readAll_succ_of_ne_nil A fuel hw]
  cases A.read w with
  | none => rfl
  | some q =>
    obtain ⟨a, r⟩ := q
    simp only
    cases readAll A fuel r <;> rfl

theorem readAll_cons_some (A : Codec α) {fuel : Nat} {b : UInt8} {t : Bytes} {l : List α}
    (h : readAll A fuel (b :: t) = some l) :
    ∃ n a r l', fuel = n + 1 ∧ A.read (b :: t) = some (a, r) ∧ readAll A n r = some l' ∧ l = a :: l' := by
  cases fuel with
  | zero => contradiction
  | succ n =>
    obtain ⟨a, r, hA, h⟩ := bind_some.1 h
    split at h
    · contradiction
    · next l' hR => cases h; exact ⟨n, a, r, l', rfl, hA, hR, rfl⟩

theorem readAll_inv (A : Codec α) : ∀ (fuel : Nat) {w : Bytes} {l : List α},
    readAll A fuel w = some l → (∀ a ∈ l, A.wf a) ∧ writeAll A l = w := by
  intro fuel
  induction fuel with
  | zero =>
    intro w l h
    cases w with
    | nil => cases h; exact ⟨nofun, rfl⟩
    | cons b t => contradiction
  | succ n ih =>
    intro w l h
    cases w with
    | nil => cases h; exact ⟨nofun, rfl⟩
    | cons b t =>
      obtain ⟨n', a, r, l', hn, hA, hR, rfl⟩ := readAll_cons_some A h
      cases hn
      have ⟨i1, i2⟩ := ih hR
      exact ⟨List.forall_mem_cons.2 ⟨A.sound hA, i1⟩, by rw [writeAll_cons, i2, A.consumed hA]⟩

theorem readAll_complete (A : Codec α) (hpos : ∀ a, A.wf a → A.write a ≠ []) :
    ∀ (l : List α) (fuel : Nat), (∀ a ∈ l, A.wf a) → (writeAll A l).length ≤ fuel →
      readAll A fuel (writeAll A l) = some l := by
  intro l
  induction l with
  | nil => intro fuel _ _; exact readAll_nil A fuel
  | cons a t ih =>
    intro fuel h hf
    have ⟨hwa, ht⟩ := List.forall_mem_cons.1 h
    have hne : A.write a ++ writeAll A t ≠ [] := fun h0 => hpos a hwa (List.append_eq_nil_iff.mp h0).1
    have hlen := List.length_pos_iff.mpr (hpos a hwa)
    rw [writeAll_cons, List.length_append] at hf
    cases fuel with
    | zero => omega
    | succ n =>
      simp only [writeAll_cons, readAll_succ_of_ne_nil A n hne, A.complete _ hwa, ih n ht (by omega)]

/-- Every element of a successful `readAll` consumed at least one byte, so `w.length` fuel is
    enough: more fuel never changes a successful result. -/
theorem readAll_fuel_irrelevant (A : Codec α) (hpos : ∀ a, A.wf a → A.write a ≠ [])
    {fuel : Nat} {w : Bytes} {l : List α} (h : readAll A fuel w = some l) :
    readAll A w.length w = some l := by
  obtain ⟨h2, rfl⟩ := readAll_inv A fuel h
  exact readAll_complete A hpos l _ h2 (Nat.le_refl _)

theorem withinAll_inv {k : Nat} {A : Codec α} {w : Bytes} {l : List α} {r : Bytes}
    (h : (match (lenPrefixed k).read w with
      | none => none
      | some (body, r) => (readAll A body.length body).map (·, r)) = some (l, r)) :
    ∃ body, (lenPrefixed k).read w = some (body, r) ∧ readAll A body.length body = some l := by
  split at h
  · contradiction
  · next body r1 hL =>
    obtain ⟨l', hR, h⟩ := Option.map_eq_some_iff.1 h
    cases h
    exact ⟨body, hL, hR⟩

/-- `k`-byte big-endian length `L`, then exactly `L` bytes consisting of zero or more
    `A`-encodings back to back. -/
def withinAll (k : Nat) (A : Codec α) (hpos : ∀ a, A.wf a → A.write a ≠ []) : Codec (List α) where
  read w := match (lenPrefixed k).read w with
    | none => none
    | some (body, r) => (readAll A body.length body).map (·, r)
  write l := beEnc k (writeAll A l).length ++ writeAll A l
  wf l := (∀ a ∈ l, A.wf a) ∧ (writeAll A l).length < 256 ^ k
  consumed := by
    intro w l r h
    obtain ⟨body, hL, hR⟩ := withinAll_inv h
    rw [(readAll_inv A _ hR).2]
    exact (lenPrefixed k).consumed hL
  complete := by
    intro l x h
    show (match (lenPrefixed k).read ((lenPrefixed k).write (writeAll A l) ++ x) with
      | none => none
      | some (body, r) => (readAll A body.length body).map (·, r)) = some (l, x)
    simp only [(lenPrefixed k).complete x h.2, readAll_complete A hpos l _ h.1 (Nat.le_refl _), Option.map_some]
  sound := by
    intro w l r h
    obtain ⟨body, hL, hR⟩ := withinAll_inv h
    have ⟨h1, h2⟩ := readAll_inv A _ hR
    refine ⟨h1, ?_⟩
    rw [h2]
    exact (lenPrefixed k).sound hL

theorem withinAll_read (k : Nat) (A : Codec α) (hpos) (w : Bytes) :
    (withinAll k A hpos).read w = match (lenPrefixed k).read w with
      | none => none
      | some (body, r) => (readAll A body.length body).map (·, r) := rfl
@[simp] theorem withinAll_write (k : Nat) (A : Codec α) (hpos) (l : List α) :
    (withinAll k A hpos).write l = beEnc k (writeAll A l).length ++ writeAll A l := rfl
@[simp] theorem withinAll_wf (k : Nat) (A : Codec α) (hpos) (l : List α) :
    (withinAll k A hpos).wf l = ((∀ a ∈ l, A.wf a) ∧ (writeAll A l).length < 256 ^ k) := rfl

/-- Characterisation of a successful `withinAll` read. -/
theorem withinAll_read_eq_some (k : Nat) (A : Codec α) (hpos) {w : Bytes} {l : List α} {r : Bytes} :
    (withinAll k A hpos).read w = some (l, r) ↔
      ∃ body, (lenPrefixed k).read w = some (body, r) ∧ readAll A body.length body = some l :=
  ⟨withinAll_inv, fun ⟨_, h1, h2⟩ => by simp only [withinAll_read, h1, h2, Option.map_some]⟩

/-- the I2P `String`: one length byte, then that many bytes -/
def i2pString : Codec Bytes := lenPrefixed 1

/-- e.g. a one-byte count (at most 16) of 40-byte records -/
def exampleRecords : Codec (List Bytes) := counted 1 0 16 (bytesN 40)

example : (counted 1 0 16 (bytesN 2)).read [2, 1,2, 3,4, 9] = some ([[1,2],[3,4]], [9]) := by decide
example : (counted 1 1 16 (bytesN 2)).read [0, 1,2] = none := by decide
example : (counted 1 0 16 (bytesN 2)).write [[1,2],[3,4]] = [2, 1,2, 3,4] := by decide
example : i2pString.read [3, 97, 98, 99, 7] = some ([97, 98, 99], [7]) := by decide
example : i2pString.read [3, 97, 98] = none := by decide
example : (within 1 (pair byte (beInt 2))).read [3, 5, 1, 0, 8] = some ((5, 256), [8]) := by decide
example : (within 1 (pair byte (beInt 2))).read [4, 5, 1, 0, 8] = none := by decide
example : (optionalIf true byte).read [7, 8] = some (some 7, [8]) := by decide
example : (optionalIf false byte).read [7, 8] = some (none, [7, 8]) := by decide
example : (const [61]).read [61, 1] = some ((), [1]) := by decide
example : i2pString.wf [1, 2, 3] := by show [1, 2, 3].length < 256 ^ 1; decide

/-- a key/value-like pair of two I2P strings; every encoding has at least two bytes -/
def examplePairC : Codec (Bytes × Bytes) := pair (lenPrefixed 1) (lenPrefixed 1)

theorem examplePairC_pos : ∀ p, examplePairC.wf p → examplePairC.write p ≠ [] := by
  intro p _ h
  obtain ⟨a, b⟩ := p
  have h1 := congrArg List.length h
  simp [examplePairC] at h1

example : (withinAll 2 examplePairC examplePairC_pos).read [0,5, 1,97,0, 0,0, 9]
    = some ([([97],[]), ([],[])], [9]) := by decide
example : (withinAll 2 examplePairC examplePairC_pos).read [0,4, 1,97,0, 0,0, 9] = none := by decide
example : (withinAll 2 examplePairC examplePairC_pos).read [0,0, 9] = some ([], [9]) := by decide
example : (withinAll 2 examplePairC examplePairC_pos).write [([97],[]), ([],[])]
    = [0,5, 1,97,0, 0,0] := by decide

end I2P.Spec
