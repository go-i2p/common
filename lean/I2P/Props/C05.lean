import I2P.Proofs.VerifyLemmas
/-! # C05 — successful verification implies authenticity under the identity's own key

"Verification of a RouterInfo, LeaseSet, LeaseSet2, MetaLeaseSet, EncryptedLeaseSet or OfflineSignature
reports success only if the signature is cryptographically valid under the signing key of the contained
identity (or the blinded key), over exactly the bytes the structure was parsed from, with the store-type
prefix the specification prescribes.  When a transient (offline) key signs, success additionally requires
that the transient key was itself signed by the identity's key."

Every theorem holds for EVERY `C : SigScheme` — the verification oracle is unconstrained; what is proved is
the data flow: which algorithm, key, message and signature reach the oracle.  In each statement

* `consumed` are the bytes of the RAW INPUT `w` the parser consumed (`w` minus the remainder),
* `body` / `sig` are `consumed` without / restricted to its last `sigLen sigType` bytes,
* `idKey` is the tail of the 384-byte key block of `w` (the blinded key bytes for an EncryptedLeaseSet),
* the offline block `expires ‖ type ‖ transient key ‖ signature` is located in `w` right after the 8-byte
  header that follows the identity (`idLen w` = length of the identity on the wire).

`algOf` / `offAlgOf` (I2P/Verify.lean) record which algorithm the library runs for a signing type; that an
Ed25519ph (type 8) transient key is checked with plain Ed25519 is visible there (`algOf 8 = 7`, D17).
Unforgeability is computational and not a theorem. -/

namespace I2P.Props.C05
open I2P.Spec I2P.Kac I2P.Structs I2P.Verify

/-! ### the field-level parsers refine the validated byte-level readers, with the same acceptance -/

theorem leaseset2_refines :
    ∀ {w : Bytes} {p : LS2Parsed}, parseLS2 w = some p → readLeaseSet2 w = some (p.bytes, p.rem) :=
  fun h => let ⟨_, _, hr, _⟩ := parseDestSigned_spec h; hr

theorem leaseset2_accepts :
    ∀ {w b r : Bytes}, readLeaseSet2 w = some (b, r) → ∃ p, parseLS2 w = some p ∧ p.bytes = b ∧ p.rem = r :=
  fun h => parseDestSigned_complete readLeaseSet2_hdrSigned h

theorem meta_leaseset_refines :
    ∀ {w : Bytes} {p : MetaParsed}, parseMeta w = some p → readMeta w = some (p.bytes, p.rem) :=
  fun h => let ⟨_, _, hr, _⟩ := parseDestSigned_spec h; hr

theorem meta_leaseset_accepts :
    ∀ {w b r : Bytes}, readMeta w = some (b, r) → ∃ p, parseMeta w = some p ∧ p.bytes = b ∧ p.rem = r :=
  fun h => parseDestSigned_complete readMeta_hdrSigned h

theorem encrypted_leaseset_refines :
    ∀ {w : Bytes} {p : ELSParsed}, parseELS w = some p → readELS w = some (p.bytes, p.rem) :=
  fun h => (parseELS_spec h).1

theorem encrypted_leaseset_accepts :
    ∀ {w b r : Bytes}, readELS w = some (b, r) → ∃ p, parseELS w = some p ∧ p.bytes = b ∧ p.rem = r := by
  intro w b r h
  obtain ⟨_, _, _, _, _, _, ob, r2, sigT, sb, ho, _⟩ := readELS_some.mp h
  unfold parseELS
  simp only [h, offPart_some.mpr ⟨ob, r2, ho, rfl⟩]
  exact ⟨_, rfl, rfl, rfl⟩

theorem leaseset_refines :
    ∀ {w : Bytes} {p : LSParsed}, parseLS w = some p → readLeaseSet w = some (p.bytes, p.rem) :=
  fun h => let ⟨_, _, _, _, hr, _⟩ := parseLS_spec h; hr

theorem leaseset_accepts :
    ∀ {w b r : Bytes}, readLeaseSet w = some (b, r) → ∃ p, parseLS w = some p ∧ p.bytes = b ∧ p.rem = r := by
  intro w b r h
  obtain ⟨_, c, rc, k, db, hc, _, hd, _, _⟩ := readLeaseSet_some.mp h
  unfold parseLS
  simp only [h, hc, hd]
  exact ⟨_, rfl, rfl, rfl⟩

theorem router_info_refines :
    ∀ {w : Bytes} {p : RIParsed}, parseRI w = some p → readRouterInfo w = some (p.bytes, p.rem) :=
  fun h => let ⟨_, _, hr, _⟩ := parseRI_spec h; hr

theorem router_info_accepts :
    ∀ {w b r : Bytes}, readRouterInfo w = some (b, r) → ∃ p, parseRI w = some p ∧ p.bytes = b ∧ p.rem = r := by
  intro w b r h
  obtain ⟨k, r', ib, hid, _, _⟩ := readRouterInfo_some.mp h
  unfold parseRI
  simp only [h, hid]
  exact ⟨_, rfl, rfl, rfl⟩

/-! ### C05, structure by structure -/

/-- **LeaseSet2.**  `Verify() = nil` ⇒ the trailing signature is valid over `0x03 ‖ received bytes` under the
    destination's own signing key — or, with the OFFLINE_KEYS flag, under the transient key found in the
    received offline block, AND that block (`expires ‖ type ‖ transient key`) is signed by the destination's
    own key. -/
theorem leaseset2_authentic (C : SigScheme) {w : Bytes} {p : LS2Parsed}
    (hp : parseLS2 w = some p) (hv : verifyLS2 C p = true) :
    let consumed := w.take (w.length - p.rem.length)
    let body := consumed.take (consumed.length - sigLen p.sigType)
    let sig := consumed.drop (consumed.length - sigLen p.sigType)
    let idKey := (w.take 384).drop (384 - sigPubSize p.idType)
    p.bytes = consumed ∧ sig.length = sigLen p.sigType ∧ sigLen p.sigType ≠ 0 ∧
    (p.flagsOffline = true ↔ beVal ((w.drop (idLen w + 6)).take 2) % 2 = 1) ∧
    (p.flagsOffline = false →
      p.sigType = p.idType ∧ C.verify (algOf p.idType) idKey ([3] ++ body) sig = true) ∧
    (p.flagsOffline = true → ∃ o, p.off = some o ∧ p.sigType = o.ttype ∧
      o.expires ++ beEnc 2 o.ttype ++ o.tkey ++ o.sig =
        (w.drop (idLen w + 8)).take (6 + sigPubSize o.ttype + sigLen p.idType) ∧
      o.expires.length = 4 ∧ o.tkey.length = sigPubSize o.ttype ∧
      C.verify (algOf o.ttype) o.tkey ([3] ++ body) sig = true ∧
      C.verify (algOf p.idType) idKey (o.expires ++ beEnc 2 o.ttype ++ o.tkey) o.sig = true) :=
  destSigned_sound readLeaseSet2_hdrSigned [3] C hp hv

/-- **MetaLeaseSet.**  As LeaseSet2, with store-type prefix `0x07`. -/
theorem meta_leaseset_authentic (C : SigScheme) {w : Bytes} {p : MetaParsed}
    (hp : parseMeta w = some p) (hv : verifyMeta C p = true) :
    let consumed := w.take (w.length - p.rem.length)
    let body := consumed.take (consumed.length - sigLen p.sigType)
    let sig := consumed.drop (consumed.length - sigLen p.sigType)
    let idKey := (w.take 384).drop (384 - sigPubSize p.idType)
    p.bytes = consumed ∧ sig.length = sigLen p.sigType ∧ sigLen p.sigType ≠ 0 ∧
    (p.flagsOffline = true ↔ beVal ((w.drop (idLen w + 6)).take 2) % 2 = 1) ∧
    (p.flagsOffline = false →
      p.sigType = p.idType ∧ C.verify (algOf p.idType) idKey ([7] ++ body) sig = true) ∧
    (p.flagsOffline = true → ∃ o, p.off = some o ∧ p.sigType = o.ttype ∧
      o.expires ++ beEnc 2 o.ttype ++ o.tkey ++ o.sig =
        (w.drop (idLen w + 8)).take (6 + sigPubSize o.ttype + sigLen p.idType) ∧
      o.expires.length = 4 ∧ o.tkey.length = sigPubSize o.ttype ∧
      C.verify (algOf o.ttype) o.tkey ([7] ++ body) sig = true ∧
      C.verify (algOf p.idType) idKey (o.expires ++ beEnc 2 o.ttype ++ o.tkey) o.sig = true) :=
  destSigned_sound readMeta_hdrSigned [7] C hp hv

/-- **EncryptedLeaseSet.**  Prefix `0x05`; the identity key is the blinded key `w[2 .. 2+ks)` of the declared
    `sig_type = w[0..2)`.  With offline keys the block must verify under the blinded key with the algorithm
    `offAlgOf sig_type` (for `sig_type = 8` that is the Ed25519ph API, which differs from `algOf 8`). -/
theorem encrypted_leaseset_authentic (C : SigScheme) {w : Bytes} {p : ELSParsed}
    (hp : parseELS w = some p) (hv : verifyELS C p = true) :
    let consumed := w.take (w.length - p.rem.length)
    let body := consumed.take (consumed.length - sigLen p.sigType)
    let sig := consumed.drop (consumed.length - sigLen p.sigType)
    let ks := sigPubSize p.idType
    let blinded := (w.drop 2).take ks
    p.bytes = consumed ∧ sig.length = sigLen p.sigType ∧ sigLen p.sigType ≠ 0 ∧ p.idType = beVal (w.take 2) ∧
    (p.flagsOffline = true ↔ beVal ((w.drop (2 + ks + 6)).take 2) % 2 = 1) ∧
    (p.flagsOffline = false →
      p.sigType = p.idType ∧ C.verify (algOf p.idType) blinded ([5] ++ body) sig = true) ∧
    (p.flagsOffline = true → ∃ o a, p.off = some o ∧ p.sigType = o.ttype ∧
      o.expires ++ beEnc 2 o.ttype ++ o.tkey ++ o.sig =
        (w.drop (2 + ks + 8)).take (6 + sigPubSize o.ttype + sigLen p.idType) ∧
      o.expires.length = 4 ∧ o.tkey.length = sigPubSize o.ttype ∧
      C.verify (algOf o.ttype) o.tkey ([5] ++ body) sig = true ∧
      offAlgOf p.idType = some a ∧
      C.verify a blinded (o.expires ++ beEnc 2 o.ttype ++ o.tkey) o.sig = true) := by
  obtain ⟨_, hit, hik, ho, hfl, hsig⟩ := parseELS_spec hp
  obtain ⟨hcat, hne, hle, hkl⟩ := parseELS_raw hp
  obtain ⟨hc, hsl, hmsg⟩ := signed_raw hcat hsig hle [5]
  dsimp only
  rw [hc, ← hsig, ← hmsg, ← hik]
  exact ⟨rfl, hsl, hne, hit, offPart_sound hfl ho (verifyELS_sound hkl hv)⟩

/-- **LeaseSet.**  No prefix; the key is the destination's signing key, of the type the key certificate
    declares (a NULL certificate gives `idType = 0`, DSA-SHA1); the signature has that same type. -/
theorem leaseset_authentic (C : SigScheme) {w : Bytes} {p : LSParsed}
    (hp : parseLS w = some p) (hv : verifyLS C p = true) :
    let consumed := w.take (w.length - p.rem.length)
    let body := consumed.take (consumed.length - sigLen p.sigType)
    let sig := consumed.drop (consumed.length - sigLen p.sigType)
    let idKey := (w.take 384).drop (384 - sigPubSize p.idType)
    p.bytes = consumed ∧ sig.length = sigLen p.sigType ∧ sigLen p.sigType ≠ 0 ∧ p.sigType = p.idType ∧
    C.verify (algOf p.idType) idKey body sig = true := by
  obtain ⟨hcat, hne, hle, hsig, hik, hst⟩ := parseLS_raw hp
  obtain ⟨hc, hsl, hmsg⟩ := signed_raw hcat hsig hle []
  have hv1 := (verifyLS_sound hv).2
  rw [hmsg, List.nil_append] at hv1
  dsimp only
  rw [hc, ← hsig, ← hik]
  exact ⟨rfl, hsl, hne, hst, hv1⟩

/-- **RouterInfo.**  No prefix; `VerifySignature() = true` ⇒ the identity's signing type is 7 and the last
    64 consumed bytes are an Ed25519 signature of everything before them under the 32-byte key at the end of
    the key block. -/
theorem router_info_authentic (C : SigScheme) {w : Bytes} {p : RIParsed}
    (hp : parseRI w = some p) (hv : verifyRI C p = true) :
    let consumed := w.take (w.length - p.rem.length)
    let body := consumed.take (consumed.length - 64)
    let sig := consumed.drop (consumed.length - 64)
    let idKey := (w.take 384).drop (384 - 32)
    p.bytes = consumed ∧ sig.length = 64 ∧ p.sigType = 7 ∧ p.idType = 7 ∧
    C.verify 7 idKey body sig = true := by
  obtain ⟨hcat, _, hle, hsig, hik, hst⟩ := parseRI_raw hp
  obtain ⟨h7, _, hv1⟩ := verifyRI_sound hv
  have hid : p.idType = 7 := hst ▸ h7
  rw [h7, show sigLen 7 = 64 from rfl] at hle hsig
  rw [hid, show sigPubSize 7 = 32 from rfl] at hik
  obtain ⟨hc, hsl, hmsg⟩ := signed_raw hcat hsig hle []
  rw [hmsg, List.nil_append] at hv1
  dsimp only
  rw [hc, ← hsig, ← hik]
  exact ⟨rfl, hsl, h7, hid, hv1⟩

/-- RouterInfo: a signature of any type other than Ed25519 never verifies, whatever the oracle says -/
theorem router_info_only_ed25519 (C : SigScheme) (p : RIParsed) (h : p.sigType ≠ 7) : verifyRI C p = false := by
  unfold verifyRI; rw [if_neg h]

/-- **OfflineSignature.VerifySignature(key)** on a block read from `d` for destination type `t`:
    success ⇒ `t ∈ {7, 8, 11}`, a 32-byte key, a non-zero expiry, and the block's signature
    `d[6+ks .. 6+ks+sigLen t)` is valid under `key` over exactly `d[0 .. 6+ks)` = expires ‖ type ‖ transient key. -/
theorem offline_signature_authentic (C : SigScheme) {d : Bytes} {t : Nat} {ob r : Bytes} {st : Nat} {key : Bytes}
    (hr : readOffSig d t = some (ob, r, st)) (hv : verifyOffline C (offFields ob t) key = true) :
    (t = 7 ∨ t = 8 ∨ t = 11) ∧ key.length = 32 ∧ beVal (d.take 4) ≠ 0 ∧
    ∃ a, offAlgOf t = some a ∧
      C.verify a key (d.take (6 + sigPubSize st)) ((d.drop (6 + sigPubSize st)).take (sigLen t)) = true := by
  obtain ⟨_, hdt, hex, _, _, hsg, _, hsd⟩ := offFields_layout hr
  obtain ⟨hexp, _, _, _, hk32, a, ha, hva⟩ := verifyOffline_sound hv
  rw [hdt] at ha
  rw [hsd, hsg] at hva
  rw [hex] at hexp
  refine ⟨?_, hk32, hexp, a, ha, hva⟩
  rcases offAlgOf_some ha with ⟨h, _⟩ | ⟨h, _⟩ | ⟨h, _⟩
  · exact Or.inl h
  · exact Or.inr (Or.inr h)
  · exact Or.inr (Or.inl h)

/-! ### `Verify` = "every printed obligation holds" (what the `verifyObl` op compares with the library) -/

theorem leaseset2_obligations (C : SigScheme) (p : LS2Parsed) : verifyLS2 C p = C.all (oblLS2 p) :=
  verifyDest_eq_obl [3] C p

theorem meta_leaseset_obligations (C : SigScheme) (p : MetaParsed) : verifyMeta C p = C.all (oblMeta p) :=
  verifyDest_eq_obl [7] C p

theorem encrypted_leaseset_obligations (C : SigScheme) (p : ELSParsed) : verifyELS C p = C.all (oblELS p) := by
  unfold verifyELS oblELS
  split
  · exact transient_eq_obl ..
  · cases constructKey p.idType p.idKey <;> simp [SigScheme.all, SigScheme.holds]

theorem leaseset_obligations (C : SigScheme) (p : LSParsed) : verifyLS C p = C.all (oblLS p) := by
  unfold verifyLS oblLS
  split
  · rfl
  · cases sigConstructible p.idType <;> simp [SigScheme.all, SigScheme.holds]

theorem router_info_obligations (C : SigScheme) (p : RIParsed) : verifyRI C p = C.all (oblRI p) := by
  unfold verifyRI oblRI
  split
  · split
    · rfl
    · simp [SigScheme.all, SigScheme.holds]
  · rfl

/-! ### the hole the fix closed (D4): the pre-fix `Verify` trusted any transient key -/

/-! `attackerOnly` (only the key of 32 bytes `0x06` ever verifies anything) and `forged` (victim identity key
    `0x02…`, offline flag set, attacker's transient key `0x06…`, 64 zero bytes as "destination signature", final
    signature by the attacker) are defined at the end of `Proofs/VerifyLemmas.lean`. -/

/-- the PRE-FIX model accepts although the offline block does not verify under the
    identity's key — the conclusion of `leaseset2_authentic` fails for the old code; the current model rejects. -/
example :
    verifyLS2Prefix attackerOnly forged = true ∧
    attackerOnly.verify (algOf forged.idType) forged.idKey
      ([0, 0, 0, 1] ++ beEnc 2 7 ++ List.replicate 32 6) (List.replicate 64 0) = false ∧
    verifyLS2 attackerOnly forged = false := by decide +kernel

/-- the same on the wire: `exLS2Off` (StructLemmas) parses, carries an offline block whose transient key is
    32 bytes `0x06` while the destination's key is 32 bytes `0x01`; old code accepts, current code rejects -/
example :
    (parseLS2 exLS2Off).map (verifyLS2Prefix attackerOnly) = some true ∧
    (parseLS2 exLS2Off).map (verifyLS2 attackerOnly) = some false := by
  -- `verifyDest` compares lengths: the bytes the reader returns are taken from `exLS2Off_reads`, so that the kernel
  -- does not serialise them once more (likewise below)
  rw [parseLS2, parseDestSigned, exLS2Off_reads]
  decide +kernel

/-! ### the hypotheses are satisfiable (`acceptAll`: an oracle that accepts everything) -/

example : (parseLS2 exLS2).map (verifyLS2 acceptAll) = some true := by
  rw [parseLS2, parseDestSigned, exLS2_reads]
  decide +kernel
example : (parseLS2 exLS2Off).map (verifyLS2 acceptAll) = some true := by
  rw [parseLS2, parseDestSigned, exLS2Off_reads]
  decide +kernel
example : (parseLS2 exLS2Off).map (·.flagsOffline) = some true := by decide +kernel
example : (parseMeta exMeta).map (verifyMeta acceptAll) = some true := by
  rw [parseMeta, parseDestSigned, exMeta_reads]
  decide +kernel
example : (parseELS exELS).map (verifyELS acceptAll) = some true := by decide +kernel
example : (parseLS exLS).map (verifyLS acceptAll) = some true := by
  rw [parseLS, exLS_reads]
  decide +kernel
example : (parseRI exRI).map (verifyRI acceptAll) = some true := by decide +kernel
example : verifyOffline acceptAll (offFields exOff 7) (List.replicate 32 1) = true := by decide +kernel

end I2P.Props.C05
