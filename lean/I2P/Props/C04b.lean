import I2P.Proofs.CheckedLemmas2
/-! # C04 (second part) — no input makes a parser panic: Mapping and the readers that embed one

Property theorems only; the checked mirrors are in `I2P/Checked2.lean`, the helper lemmas in
`I2P/Proofs/CheckedLemmasMapping.lean`, `CheckedLemmas2.lean`.  Same scheme as `Props/C04.lean`: for every reader `f`

* `fC_refines` — the checked mirror returns `.ok` of exactly what the pure model returns, for EVERY input;
* `fC_no_panic` — the corollary that it never returns `.error _`;
* `…S_any_slice` — the same for an arbitrary Go slice (any underlying array, offset and capacity). -/
namespace I2P.Props.C04
open I2P.Kac I2P.Structs I2P.Checked I2P.Mapping
attribute [local congr] Go.bind_congr

/-! ### I2PString accessors, NewIntegerFromInt -/

/-- `I2PString.Data()` on ANY slice (malformed strings included): never a panic — `str[1 : length+1]` is only
    reached when the length byte equals `len(str) - 1` —, and the result is the pure `strData` / `strDataOk` -/
theorem i2pStringDataC_refines (s : Sl) :
    ∃ e, i2pStringDataC s = .ok (strData s.data, e) ∧ e.isNone = strDataOk s.data :=
  i2pStringDataC_spec s

theorem i2pStringDataC_no_panic (s : Sl) : ∃ r, i2pStringDataC s = .ok r := by
  obtain ⟨e, h, -⟩ := i2pStringDataC_spec s; exact ⟨_, h⟩

/-- `I2PString.Length()` on any slice -/
theorem i2pStringLengthC_no_panic (s : Sl) : ∃ r, i2pStringLengthC s = .ok r := by
  obtain ⟨e, h, -⟩ := i2pStringLengthC_spec s; exact ⟨_, h⟩

/-- `NewIntegerFromInt(value, size)` for every pair of Go ints: `bytes[8-size:]` stays in range -/
theorem newIntegerFromIntC_refines (value size : Int) :
    ∃ r, newIntegerFromIntC value size = .ok r ∧ r.map Sl.data = newIntegerFromInt value size :=
  newIntegerFromIntC_spec value size

theorem newIntegerFromIntC_no_panic (value size : Int) : ∃ r, newIntegerFromIntC value size = .ok r := by
  obtain ⟨r, h, -⟩ := newIntegerFromIntC_spec value size; exact ⟨r, h⟩

/-! ### ReadMapping -/

/-- one call of `parseSingleKeyValuePair` on any slice: no panic (`remainder[1:]` after `beginsWith`,
    `accumulatedErrors[0]`), and remainder, pair and error class are those of the pure model -/
theorem parseSingleKeyValuePairC_refines (s : Sl) (seen : List Bytes) :
    ∃ rem k v, parseSingleKeyValuePairC s seen = .ok (rem, (k, v), (parseSingle s.data seen).err.map .m) ∧
      rem.data = (parseSingle s.data seen).rem ∧ k.data = (parseSingle s.data seen).pair.1 ∧
      v.data = (parseSingle s.data seen).pair.2 :=
  parseSingleKeyValuePairC_spec s seen

/-- `ReadMapping` on a caller buffer returns exactly the four fields of the pure model: whether a size was
    read, the stored pairs, the remainder and the error list (never "failed to read mapping size", never
    "no forward progress", never a bare I2PString error) -/
theorem readMappingC_refines (w : Bytes) : readMappingC w = .ok (ResC.ofPure (readMapping w)) := by
  obtain ⟨m, rem, h, h1, h2, h3⟩ := readMappingS_spec (.ofBytes w)
  simp only [Sl.ofBytes_data] at h h1 h2 h3
  simp only [readMappingC, h, bind_ok, pure_eq_ok, ResC.ofPure, h1, h3]
  congr 2

theorem readMappingC_no_panic (w : Bytes) : ∃ r, readMappingC w = .ok r := ⟨_, readMappingC_refines w⟩

/-- the same for an arbitrary slice: in particular for the body `remainder[:size]`, whose capacity extends
    over the bytes that follow the mapping -/
theorem readMappingS_any_slice (s : Sl) :
    ∃ m rem, readMappingS s = .ok (m, rem, (readMapping s.data).errs.map .m) ∧
      m.size.isSome = (readMapping s.data).hasSize ∧ valsData m.vals = (readMapping s.data).vals ∧
      rem.data = (readMapping s.data).rem :=
  readMappingS_spec s

/-- `ReadMappingValues(remainder, map_length)` for any slice and any Integer whose value is `L` -/
theorem readMappingValuesS_any_slice (s ml : Sl) (L : Nat) (hL : integerInt ml.data = (L : Int)) :
    ∃ vals, readMappingValuesS s ml = .ok (vals, Sl.nil, (readValues s.data L).2.map .m) ∧
      valsData vals = (readValues s.data L).1 :=
  readMappingValuesS_spec s ml L hL

/-! ### Mapping.Data() -/

/-- `serializeOnePair` on ANY pair of slices: `pair[0][1:]` / `pair[1][1:]` cannot panic, because they are
    only reached after `Length()` succeeded -/
theorem serializeOnePairC_refines (p : PairS) :
    serializeOnePairC p = .ok (if strDataOk p.1.data = true ∧ strDataOk p.2.data = true
      then some (serPair (pairData p)) else none) :=
  serializeOnePairC_eq p

theorem serializeOnePairC_no_panic (p : PairS) : ∃ r, serializeOnePairC p = .ok r := ⟨_, serializeOnePairC_eq p⟩

/-- `Mapping.Data()` on ANY mapping value (stored pairs or not) -/
theorem mappingDataC_refines (m : MappingC) :
    mappingDataC (some m) = .ok (if m.size.isSome then some (dataOf ((valsData m.vals).getD [])) else none) :=
  mappingDataC_eq m

theorem mappingDataC_no_panic (m : Option MappingC) : ∃ r, mappingDataC m = .ok r := by
  cases m with
  | none => exact ⟨none, rfl⟩
  | some m => exact ⟨_, mappingDataC_eq m⟩

/-- `ReadMapping` followed by `Data()` is the pure `Mapping.data ∘ readMapping` -/
theorem readMappingDataC_refines (w : Bytes) : readMappingDataC w = .ok (Mapping.data (readMapping w)) := by
  obtain ⟨m, rem, h, h1, h2, -⟩ := readMappingS_spec (.ofBytes w)
  simp only [readMappingDataC, h, bind_ok, mappingDataC_eq, h1, h2, Sl.ofBytes_data, Mapping.data]
  cases (readMapping w).hasSize <;> rfl

theorem readMappingDataC_no_panic (w : Bytes) : ∃ r, readMappingDataC w = .ok r := ⟨_, readMappingDataC_refines w⟩

/-! ### Mapping: loop bound

The `for { … }` loop of `parseKeyValuePairs` is a structural recursion on a fuel argument; the ghost counter `n`
in its result is the number of loop bodies (calls of `parseNextPair`) executed. -/

/-- for arbitrary arguments: at most `fuel` bodies, the pair counter never passes `MAX_MAPPING_PAIRS`, every
    body except possibly the last stores a pair (`k` pairs in all), and every stored pair consumed at least
    four bytes of the remaining input -/
theorem mapping_loop_bounds (fuel : Nat) (s : Sl) (vals : List PairS) (errs : List MapErrC) (seen : List Bytes)
    (pc prev : Int) (lm : Bool) (rem : Sl) (vals' : List PairS) (errs' : List MapErrC) (n : Nat)
    (h : parseKeyValuePairsLoopC fuel s vals errs seen pc prev lm = .ok (rem, vals', errs', n)) :
    n ≤ fuel ∧ (n = 0 ∨ pc + n ≤ MAX_MAPPING_PAIRS) ∧
      ∃ k, vals'.length = vals.length + k ∧ n ≤ k + 1 ∧ rem.len + 4 * k ≤ s.len := by
  show n ≤ fuel ∧ (n = 0 ∨ pc + n ≤ 1000) ∧ _
  induction fuel generalizing s vals errs seen pc prev rem vals' errs' n with
  | zero =>
    cases h
    exact ⟨Nat.le_refl 0, .inl rfl, 0, rfl, Nat.zero_le _, Nat.le_refl _⟩
  | succ fuel ih =>
    obtain ⟨r1, p, hr1, -, hstep⟩ := parseKeyValuePairsLoopC_succ fuel s vals errs seen pc prev lm
    have hlen : r1.len = (parseSingle s.data seen).rem.length := by rw [← hr1, Sl.data_length]
    have hle := parseSingle_rem_le s.data seen
    rw [s.data_length] at hle
    rw [hstep] at h
    clear hstep
    by_cases hstop : 1000 ≤ pc ∨ s.len = 0 ∨ (lm = true ∧ s.len < 6)
    · rw [if_pos hstop] at h; cases h; exact ⟨Nat.zero_le _, .inl rfl, 0, rfl, Nat.zero_le _, Nat.le_refl _⟩
    rw [if_neg hstop] at h
    cases hprog : checkForwardProgressC pc (s.len : Int) prev with
    | some e => rw [hprog] at h; cases h; exact ⟨Nat.zero_le _, .inl rfl, 0, rfl, Nat.zero_le _, Nat.le_refl _⟩
    | none =>
      rw [hprog] at h
      dsimp only at h
      by_cases hd : (parseSingle s.data seen).err = some .expEq ∨ (parseSingle s.data seen).err = some .expSemi
      · rw [if_pos hd] at h; cases h; exact ⟨Nat.succ_le_succ (Nat.zero_le _), by omega, 0, by omega⟩
      have hpr := parseSingle_progress s.data seen hd
      rw [s.data_length] at hpr
      by_cases hr0 : r1.len = 0
      · rw [if_neg hd, if_pos hr0] at h; cases h
        exact ⟨Nat.succ_le_succ (Nat.zero_le _), by omega, 1,
          by rw [List.length_append, List.length_singleton]; omega⟩
      rw [if_neg hd, if_neg hr0] at h
      obtain ⟨⟨rem2, vals2, errs2, n2⟩, hq, h⟩ := bind_eq_ok.mp h
      dsimp only at h
      cases h
      obtain ⟨b1, b2, k2, b3, b4, b5⟩ := ih _ _ _ _ _ _ _ _ _ _ hq
      rw [List.length_append, List.length_singleton] at b3
      exact ⟨Nat.succ_le_succ b1, by omega, k2 + 1, by omega⟩

/-- as `parseKeyValuePairs` runs the loop (pair counter 0, fuel `MAX_MAPPING_PAIRS + 2`): the fuel is never
    exhausted, iterations ≤ min (MAX_MAPPING_PAIRS + 1) (len / 4 + 1), and every stored pair consumed ≥ 4 bytes -/
theorem parseKeyValuePairsC_iterations (s : Sl) (errs : List MapErrC) (rem : Sl) (vals' : List PairS)
    (errs' : List MapErrC) (n : Nat) (h : parseKeyValuePairsC s [] errs = .ok (rem, vals', errs', n)) :
    n < MAX_MAPPING_PAIRS + 2 ∧ n ≤ min (MAX_MAPPING_PAIRS + 1) (s.data.length / 4 + 1) ∧
      n ≤ vals'.length + 1 ∧ rem.len + 4 * vals'.length ≤ s.len := by
  obtain ⟨b1, b2, k, b3, b4, b5⟩ := mapping_loop_bounds _ _ _ _ _ _ _ _ _ _ _ _ h
  have hM : MAX_MAPPING_PAIRS = 1000 := rfl
  rw [List.length_nil, Nat.zero_add] at b3
  rw [hM] at b1 b2 ⊢
  rw [b3, s.data_length]
  omega

/-- the hypothesis of `parseKeyValuePairsC_iterations` is satisfiable (one pair `a=b;`, one iteration) -/
example : ∃ rem vals errs, parseKeyValuePairsC (.ofBytes [1, 97, 0x3d, 1, 98, 0x3b]) [] [] = .ok (rem, vals, errs, 1) :=
  ⟨_, _, _, rfl⟩

/-! ### LeaseSet2, end to end

`Props/C04.lean` proves the parse helpers of `ReadLeaseSet2` around the options mapping; with `ReadMapping`
mirrored the whole reader is covered. -/

/-- `parseOptionsMapping` (the error filter with `fatal[0]`, `warnIfOptionsUnsorted` with `pair[0].Data()`):
    never panics and computes the pure `readOptions _ true` -/
theorem ls2ParseOptionsMappingC_refines (s : Sl) :
    ∃ r, ls2ParseOptionsMappingC s = .ok r ∧
      r.map (fun p => (optionsBytes p.1, p.2.data)) = readOptions s.data true := by
  obtain ⟨m, rem, h, hb, hl, hr⟩ := readMappingS_stream s
  simp only [ls2ParseOptionsMappingC, h, go, optionsFatalFilterC_eq, readOptions, accepted]
  cases (readMapping s.data).errs.all (· == .beyond) with
  | false => simp only [go]
  | true =>
    simp only [go, warnIfOptionsUnsortedC_ok, optionsBytes, hb, hl, hr, Nat.pos_iff_ne_zero, ite_not]

theorem readLeaseSet2S_any_slice (s : Sl) :
    ∃ r, readLeaseSet2S s = .ok r ∧ r.bind (fun p => p.1.bytes.map (·, p.2.data)) = readLeaseSet2 s.data := by
  rw [readLeaseSet2_stages]
  unfold readLeaseSet2S
  refine bind_spec (parseDestinationAndHeaderC_spec {} s) ?_
  rintro (_ | ⟨l1, s1⟩) hm1 <;> simp only [] at hm1
  · simp only [go, hm1, Option.bind_none]
  obtain ⟨k, pub, exp, fl, rfl, hH⟩ := hm1
  simp only [go, hH, Option.bind_some]
  refine bind_spec (parseOfflineSignatureC_spec _ s1 k rfl rfl) ?_
  rintro (_ | ⟨l2, s2⟩) hm2 <;> simp only [] at hm2
  · simp only [go, hm2, Option.bind_none]
  obtain ⟨oo, rfl, hoo, hv2⟩ := hm2
  simp only [go, hv2, Option.bind_some]
  rcases refines_cases (ls2ParseOptionsMappingC_refines s2) with ⟨h3, hp3⟩ | ⟨⟨opt, s3⟩, h3, hp3⟩ <;>
    simp only [h3, hp3, go, Option.bind_none, Option.bind_some]
  refine bind_spec (parseKeysLeasesAndSignatureC_spec _ s3 k rfl) ?_
  -- with the offline signature present exactly when the flag is set, the type of the trailing signature is `offSigT`
  rw [sigTypeOf_eq _ k hoo]
  rintro (_ | ⟨l4, s4⟩) hm4 <;> simp only [] at hm4
  · simp only [go, hm4, Option.bind_none]
  obtain ⟨ks, xs, sb, rfl, hv4⟩ := hm4
  simp only [go, hv4, Option.bind_some, LS2F.bytes]
  cases k.bytes <;> rfl

/-- `ReadLeaseSet2` (destination, header, offline signature, options mapping, key loop, lease loop,
    signature): never a panic, and the parsed LeaseSet2 re-serialises (`LS2F.bytes` = what `Bytes()` emits) to
    exactly the bytes the pure model returns, with the same remainder -/
theorem readLeaseSet2C_refines (w : Bytes) :
    ∃ r, readLeaseSet2C w = .ok r ∧ r.bind (fun p => p.1.bytes.map (·, p.2)) = readLeaseSet2 w := by
  obtain ⟨r, hr, hv⟩ := readLeaseSet2S_any_slice (.ofBytes w)
  refine ⟨_, onBytes_ok hr, ?_⟩
  rw [Sl.ofBytes_data] at hv
  rw [← hv]; cases r <;> rfl

theorem readLeaseSet2C_no_panic (w : Bytes) : ∃ r, readLeaseSet2C w = .ok r := by
  obtain ⟨r, h, -⟩ := readLeaseSet2C_refines w; exact ⟨r, h⟩

/-! ### RouterAddress -/

/-- `ReadRouterAddress` (`NewInteger`, `NewDate`, `ReadI2PString`, `NewMapping`): never a panic, and the parsed
    address re-serialises (`RA.bytes` = what `Bytes()` emits) to what the pure model returns -/
theorem readRouterAddressC_refines (w : Bytes) :
    ∃ r, readRouterAddressC w = .ok r ∧ r.map (fun p => (p.1.bytes, p.2)) = readRouterAddress w := by
  obtain ⟨r, hr, hv⟩ := readRouterAddressS_spec (.ofBytes w)
  refine ⟨_, onBytes_ok hr, ?_⟩
  rw [Sl.ofBytes_data] at hv
  rw [← hv]; cases r <;> rfl

theorem readRouterAddressC_no_panic (w : Bytes) : ∃ r, readRouterAddressC w = .ok r := by
  obtain ⟨r, h, -⟩ := readRouterAddressC_refines w; exact ⟨r, h⟩

theorem readRouterAddressS_any_slice (s : Sl) :
    ∃ r, readRouterAddressS s = .ok r ∧ r.map (fun p => (p.1.bytes, p.2.data)) = readRouterAddress s.data :=
  readRouterAddressS_spec s

/-- a successful `ReadRouterAddress` consumes at least 12 bytes -/
theorem readRouterAddressS_consumes (s : Sl) (a : RA) (rem : Sl) (h : readRouterAddressS s = .ok (some (a, rem))) :
    rem.len + 12 ≤ s.len :=
  readRouterAddressS_progress h

/-! ### RouterIdentity, RouterInfo -/

theorem readRouterIdentityC_refines (w : Bytes) : readRouterIdentityC w = .ok (readRouterIdentity w) :=
  onBytes_of_spec readRouterIdentityS_spec w
theorem readRouterIdentityC_no_panic (w : Bytes) : ∃ r, readRouterIdentityC w = .ok r := ⟨_, readRouterIdentityC_refines w⟩

theorem readRouterInfoS_any_slice (s : Sl) :
    ∃ r, readRouterInfoS s = .ok r ∧ r.bind (fun p => p.1.bytes.map (·, p.2.data)) = readRouterInfo s.data := by
  obtain ⟨r, hr, hv, -⟩ := readRouterInfoS'_spec s
  unfold readRouterInfoS
  rw [hr, ← hv]
  cases r <;> exact ⟨_, rfl, rfl⟩

/-- `ReadRouterInfo` (`parseRouterInfoCore`, the address loop, `parsePeerSizeAndOptions`,
    `parseRouterInfoSignature` with `cert.payload[0:2]`): never a panic, and the parsed RouterInfo re-serialises
    (`RI.bytes` = what `Bytes()` emits) to what the pure model returns -/
theorem readRouterInfoC_refines (w : Bytes) :
    ∃ r, readRouterInfoC w = .ok r ∧ r.bind (fun p => p.1.bytes.map (·, p.2)) = readRouterInfo w := by
  obtain ⟨r, hr, hv⟩ := readRouterInfoS_any_slice (.ofBytes w)
  refine ⟨_, onBytes_ok hr, ?_⟩
  rw [Sl.ofBytes_data] at hv
  rw [← hv]; cases r <;> rfl

theorem readRouterInfoC_no_panic (w : Bytes) : ∃ r, readRouterInfoC w = .ok r := by
  obtain ⟨r, h, -⟩ := readRouterInfoC_refines w; exact ⟨r, h⟩

/-- `parseRouterInfoSignature` on an identity with a one-byte kind and a two-byte length (every parsed one):
    never dereferences nil, `cert.payload[0:2]` is in range whenever the KEY branch is taken with ≥ 4 payload
    bytes, and the signature read is the pure model's -/
theorem parseRouterInfoSignatureC_refines (k : KeysAndCert) (s : Sl) (hk : k.kc.cert.kind.length = 1)
    (hl : k.kc.cert.len.length = 2)
    (h5 : k.kc.cert.kind = [5] → 4 ≤ k.kc.cert.payload.length ∧ k.kc.spk = beVal (k.kc.cert.payload.take 2)) :
    ∃ r, parseRouterInfoSignatureC (some k) s = .ok r ∧
      vRem r = readSig s.data (if k.kc.cert.kind == [5] then k.kc.spk else 0) :=
  parseRouterInfoSignatureC_spec k s hk hl h5

/-! ### RouterInfo: loop bound

The address loop is a structural recursion on a fuel argument; the ghost counter `n` is the number of loop
bodies (calls of `ReadRouterAddress`) executed. -/

/-- for arbitrary arguments: at most `fuel` iterations, one address stored per iteration, every iteration
    consumes at least 12 bytes (or fails: then the result is `none`), the index never passes `size.Int()` -/
theorem router_address_loop_bounds (fuel : Nat) (i : Int) (size : Option Sl) (addrs : List RA) (s : Sl)
    (as : List RA) (rem : Sl) (n : Nat)
    (h : parseRouterAddressesLoopC fuel i size addrs s = .ok (some (as, rem, n))) :
    n ≤ fuel ∧ as.length = addrs.length + n ∧ rem.len + 12 * n ≤ s.len ∧
      (n = 0 ∨ ∃ sz, size = some sz ∧ i + n ≤ integerInt sz.data) :=
  parseRouterAddressesLoopC_bounds h

/-- as `ReadRouterInfo` runs the loop: the number of iterations is the size byte (≤ 255), it equals the number
    of stored addresses, and at least `12·n` bytes were there to be consumed -/
theorem readRouterInfo_address_count (s : Sl) (info : RI) (rem : Sl) (n : Nat)
    (h : readRouterInfoS' s = .ok (some (info, rem, n))) :
    n ≤ 255 ∧ info.addresses.length = n ∧ 12 * n ≤ s.len := by
  obtain ⟨r, hr, -, hb⟩ := readRouterInfoS'_spec s
  cases h.symm.trans hr
  exact hb

/-! ### non-vacuity

The example inputs of `Proofs/StructLemmas.lean` are accepted by the checked readers and round-trip. -/

example : ∃ l, readLeaseSet2C exLS2 = .ok (some (l, [])) ∧ l.bytes = some exLS2 := by
  obtain ⟨r, hr, hv⟩ := readLeaseSet2C_refines exLS2
  rw [exLS2_reads] at hv
  obtain ⟨⟨l, rem⟩, rfl, b, hb, hv⟩ := by simpa only [Option.bind_eq_some_iff, Option.map_eq_some_iff] using hv
  cases hv
  exact ⟨l, hr, hb⟩

example : ∃ a, readRouterAddressC exAddr = .ok (some (a, [])) ∧ a.bytes = exAddr := by
  obtain ⟨r, hr, hv⟩ := readRouterAddressC_refines exAddr
  rw [exAddr_reads] at hv
  obtain ⟨⟨a, rem⟩, rfl, he⟩ := Option.map_eq_some_iff.mp hv
  obtain ⟨hb, rfl⟩ := Prod.mk.inj he
  exact ⟨a, hr, hb⟩

example : ∃ i, readRouterInfoC exRI = .ok (some (i, [])) ∧ i.bytes = some exRI := by
  obtain ⟨r, hr, hv⟩ := readRouterInfoC_refines exRI
  rw [exRI_reads] at hv
  obtain ⟨⟨i, rem⟩, rfl, b, hb, hv⟩ := by simpa only [Option.bind_eq_some_iff, Option.map_eq_some_iff] using hv
  cases hv
  exact ⟨i, hr, hb⟩

/-! ### the guards are load-bearing

The helpers DO panic when they are called without the check their caller performs first (these are not
defects: the callers always perform the checks; the examples show the theorems above are not vacuous). -/

/-- `processNormalMappingData` without the length test of `processMappingData`: a declared size of 5 over 2
    bytes makes `remainder[:size.Int()]` exceed the capacity -/
example : ∃ e, processNormalMappingDataC {} (.ofBytes [1, 2]) (some (.ofBytes [0, 5])) [] = .error e := ⟨_, rfl⟩

/-- `processMappingData` with the nil `size` pointer that `parseMappingSize` returns on failure -/
example : processMappingDataC {} (.ofBytes [1, 2]) none [] = .error .nilDeref := rfl

/-- `logMappingCompletionDetails` on a mapping whose `vals` pointer is nil -/
example : logMappingCompletionDetailsC { size := some (.ofBytes [0, 1]) } = .error .nilDeref := rfl

/-- `parseRouterInfoSignature` with a nil identity -/
example : parseRouterInfoSignatureC none (.ofBytes []) = .error .nilDeref := rfl

/-- `parseRouterAddresses` with a nil `size` pointer -/
example : parseRouterAddressesC none (.ofBytes []) = .error .nilDeref := rfl

/-- an index expression on an empty slice (`fatal[0]`, `errs[0]`, `accumulatedErrors[0]` are all guarded by a
    length test) -/
example : getAt ([] : List MapErrC) 0 = .error .indexOOB := rfl

end I2P.Props.C04
