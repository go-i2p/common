import I2P.Props.C09a
import I2P.Gen.Observed
/-! # C09 (tie half) — the policy the library enforces *now*, regenerated on every run

`Gen.Observed.destAccepted / ridAccepted`: the (signing, crypto) pairs for which `ReadDestination` /
`ReadRouterIdentity` of the freshly built library accept a well-formed identity, swept over every code the
key-certificate tables know plus both ends of the unknown range.  `Gen.Tables.*`: the prohibited sets as
written in the source. -/
namespace I2P.Props.C09
open I2P.Spec I2P.Kac

/-- nothing the readers accept carries a prohibited type -/
theorem observed_destination_policy : ∀ p ∈ Gen.Observed.destAccepted, destAllowed p.1 p.2 = true := by decide
theorem observed_router_identity_policy : ∀ p ∈ Gen.Observed.ridAccepted, ridAllowed p.1 p.2 = true := by decide

/-- the restriction does not reject any permitted, supported combination -/
theorem observed_destination_complete :
    ∀ s ∈ [0, 1, 2, 7, 8, 11], ∀ c ∈ [0, 4, 5, 6, 7], destAllowed s c = true → (s, c) ∈ Gen.Observed.destAccepted := by decide
theorem observed_router_identity_complete :
    ∀ s ∈ [0, 1, 2, 7, 8, 11], ∀ c ∈ [0, 4, 5, 6, 7], ridAllowed s c = true → (s, c) ∈ Gen.Observed.ridAccepted := by decide

/-- the accepted sets are exactly what the model's readers accept on the swept pairs -/
theorem observed_matches_model :
    Gen.Observed.destAccepted =
      ([0, 1, 2, 3, 4, 5, 6, 7, 8, 11].flatMap fun s => (List.range 16).filterMap fun c =>
        if sigConstructible s && cryptoConstructible c && destAllowed s c then some (s, c) else none) ∧
    Gen.Observed.ridAccepted =
      ([0, 1, 2, 3, 4, 5, 6, 7, 8, 11].flatMap fun s => (List.range 16).filterMap fun c =>
        if sigConstructible s && cryptoConstructible c && ridAllowed s c then some (s, c) else none) := by decide

/-- and those sets are the specification's predicates (for every 16-bit code, by the shape of the predicates) -/
theorem spec_sets (s c : Nat) :
    destAllowed s c = (!([4, 5, 6, 8].contains s) && !([5, 6, 7].contains c)) ∧
    ridAllowed s c = (!([4, 5, 6, 8, 11].contains s) && !([5, 6, 7].contains c)) := by
  have h1 : destProhibitedSig s = [4, 5, 6, 8].contains s := by
    fun_cases destProhibitedSig s
    case case5 => simp_all [List.contains_eq_mem]
    all_goals rfl
  have h2 : ridProhibitedSig s = [4, 5, 6, 8, 11].contains s := by
    fun_cases ridProhibitedSig s
    case case6 => simp_all [List.contains_eq_mem]
    all_goals rfl
  have h3 : destProhibitedCrypto c = [5, 6, 7].contains c := by
    fun_cases destProhibitedCrypto c
    case case4 => simp_all [List.contains_eq_mem]
    all_goals rfl
  exact ⟨by rw [destAllowed, h1, h3], by rw [ridAllowed, h2, ← h3]; rfl⟩

end I2P.Props.C09
