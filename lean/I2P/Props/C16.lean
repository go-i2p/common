import I2P.Proofs.C16Lemmas
/-! # C16 — encrypted LeaseSet2 payload and destination blinding

Property theorems only.  The model (`I2P/Crypto16.lean`) is *symbolic*: `EncScheme` / `BlindScheme` carry the
primitives as parameters and every fact about them is a named hypothesis of the theorem that uses it:

* laws, true of the real primitives: `DhComm`, `DhDefined`, `PubLen`, `PubCanonical`, `TagLen`, `CtLen`,
  `AeadCorrect`, `BlindLen`;
* idealisations of computational security, relative to one session: `AeadAuthAt` (`aead_auth`),
  `AeadWrongKeyAt`, `DeriveInj`, `DhInjOn canon` (`dh_inj`), `BlindInj`.

`AeadCorrect` (global) and `AeadAuthAt` (nothing but the sealed triple opens under the session key) cannot
hold together — whoever knows the key can seal something else — so `roundtrip` and `tamper_partial` are
proved under *separate* hypothesis sets; each set is shown satisfiable by an `example` at the end — that of
`tamper_partial` without its `PubCanonical`, which the toy scheme of that `example` (`pub := id`) does not satisfy. -/

namespace I2P.Props.C16
open I2P.Structs I2P.Crypto16

/-- the bytes of a LeaseSet2 the reader accepts completely (then its re-serialisation is `l` itself) -/
def ValidLS2 (l : Bytes) : Prop := ∃ b, readLeaseSet2 l = some (b, [])

/-- **Layout.**  A successful encryption is `eph_pub(32) ‖ nonce(12) ‖ ciphertext(|plain|) ‖ tag(16)` where
    (ciphertext, tag) seal the plaintext under `derive (dh ephPriv recipientPub)` and the nonce, with no
    associated data; the four parts are recovered by position. -/
theorem layout (E : EncScheme) (pub_len : PubLen E) (tag_len : TagLen E) (ct_len : CtLen E)
    (l rp eph nonce blob : Bytes) (heph : eph.length = 32) (henc : encryptLS2 E l rp eph nonce = some blob) :
    ∃ s, E.dh eph rp = some s ∧
      blob = E.pub eph ++ nonce ++ (E.aeadSeal (E.derive s) nonce l).1 ++ (E.aeadSeal (E.derive s) nonce l).2 ∧
      (E.pub eph).length = 32 ∧ nonce.length = 12 ∧
      (E.aeadSeal (E.derive s) nonce l).1.length = l.length ∧ (E.aeadSeal (E.derive s) nonce l).2.length = 16 ∧
      blob.length = 32 + 12 + l.length + 16 ∧
      blob.take 32 = E.pub eph ∧ (blob.drop 32).take 12 = nonce ∧
      (blob.drop 44).take l.length = (E.aeadSeal (E.derive s) nonce l).1 ∧
      (blob.drop 44).drop l.length = (E.aeadSeal (E.derive s) nonce l).2 := by
  obtain ⟨-, s, hs, hn, rfl⟩ := encrypt_some.mp henc
  have hp := pub_len eph heph
  have ht := tag_len (E.derive s) nonce l
  have hc := ct_len (E.derive s) nonce l
  obtain ⟨h1, h2, h3⟩ := blob_split _ _ (E.aeadSeal (E.derive s) nonce l).1 (E.aeadSeal (E.derive s) nonce l).2 hp hn
  refine ⟨s, hs, rfl, hp, hn, hc, ht, ?_, h1, h2, ?_, ?_⟩
  · rw [blob_length _ _ _ _ hp hn ht, hc]; omega
  · rw [h3, ← hc, List.take_left' rfl]
  · rw [h3, ← hc, List.drop_left' rfl]

/-- **Round trip.**  Under `dh_comm` and `aead_correct` (and the length laws), for every LeaseSet2 `l`, key
    pair `(sk, pub sk)`, ephemeral key, nonce and cookie: encryption to `pub sk` succeeds and decryption with
    `sk` returns a LeaseSet2 with exactly the bytes `l`. -/
theorem roundtrip (E : EncScheme) (dh_comm : DhComm E) (dh_defined : DhDefined E) (aead_correct : AeadCorrect E)
    (pub_len : PubLen E) (pub_canonical : PubCanonical E) (tag_len : TagLen E)
    (l sk eph nonce cookie : Bytes) (hl : ValidLS2 l)
    (hsk : sk.length = 32) (heph : eph.length = 32) (hn : nonce.length = 12) (hc : cookie.length = 32) :
    ∃ blob, encryptLS2 E l (E.pub sk) eph nonce = some blob ∧ decryptLS2 E cookie blob sk = some l := by
  obtain ⟨s, hs⟩ := Option.isSome_iff_exists.mp (dh_defined eph sk heph hsk)
  exact ⟨_, encrypt_some.mpr ⟨pub_len sk hsk, s, hs, hn, rfl⟩,
    decrypt_sealed E aead_correct hl cookie _ nonce sk s hc hsk (pub_len eph heph) hn (tag_len _ _ _)
      (pub_canonical eph) (by rw [dh_comm sk eph]; exact hs)⟩

/-- **Tampering and wrong key (partial).**  Let `blob` be an honest encryption of `l` to `pub sk`, `s` the
    shared secret.  Under the idealisations `aead_auth`, `aead_wrong_key`, `derive_inj` and `dh_inj` on
    `canon` strings:

    1. every blob of the same length that differs from `blob` *either* only after the ephemeral key *or*
       only in the ephemeral key — in particular every blob obtained by modifying one byte — is rejected,
       provided that, in the second case, the new ephemeral key is `canon`;
    2. every private key whose shared secret with the ephemeral key differs is rejected.

    What is excluded, exactly: (a) replacement ephemeral keys that have bit 255 clear and are outside `canon`
    (strings with bit 255 set are rejected by `validateEphemeralPublicKey`, the fix of D10; for the real
    X25519 `canon` still has to exclude values `≥ 2^255 − 19` and torsion-shifted points, none of which is a
    one-byte modification of an honest key except with negligible probability — `eph_malleable`);
    (b) blobs that change the ephemeral key *and*
    the rest at once: a fresh encryption of another LeaseSet2 to the same recipient is such a blob and is
    accepted by design (public-key encryption gives no sender authenticity), so the unrestricted
    "any different blob of the same length fails" of DESIGN.md appendix H is not a theorem. -/
theorem tamper_partial (E : EncScheme) (canon : Bytes → Prop)
    (dh_comm : DhComm E) (pub_len : PubLen E) (pub_canonical : PubCanonical E) (tag_len : TagLen E)
    (derive_inj : DeriveInj E) (dh_inj : DhInjOn E canon) (canon_pub : ∀ a, canon (E.pub a))
    (l sk eph nonce cookie blob s : Bytes)
    (hsk : sk.length = 32) (heph : eph.length = 32) (hc : cookie.length = 32)
    (henc : encryptLS2 E l (E.pub sk) eph nonce = some blob) (hs : E.dh eph (E.pub sk) = some s)
    (aead_auth : AeadAuthAt E (E.derive s) nonce l) (aead_wrong_key : AeadWrongKeyAt E (E.derive s) nonce l) :
    (∀ blob', blob'.length = blob.length → blob' ≠ blob →
        (blob'.take 32 = blob.take 32 ∨
          (blob'.drop 32 = blob.drop 32 ∧ (canon (blob'.take 32) ∨ ephCanonical (blob'.take 32) = false))) →
        decryptLS2 E cookie blob' sk = none) ∧
    (∀ sk', E.dh sk' (E.pub eph) ≠ E.dh sk (E.pub eph) → decryptLS2 E cookie blob sk' = none) := by
  obtain ⟨-, s', hs', hn, hb⟩ := encrypt_some.mp henc
  obtain rfl : s = s' := Option.some.inj (hs.symm.trans hs')
  subst hb
  have hp := pub_len eph heph
  have ht := tag_len (E.derive s) nonce l
  have hdh : E.dh sk (E.pub eph) = some s := by rw [dh_comm sk eph]; exact hs
  have _ := pub_canonical  -- not needed: a blob whose ephemeral key is not canonical is refused as well
  constructor
  · intro blob' hlen hne hreg
    rcases hreg with hsame | ⟨hrest, hcan | hnc⟩
    · rw [(blob_split _ _ _ _ hp hn).1] at hsame
      exact decrypt_same_eph E aead_auth cookie _ sk blob' hc hsk hn hdh hsame hne
    · -- another canonical ephemeral key in front of the untouched rest: another secret, by `dh_inj`
      have he' : (blob'.take 32).length = 32 := by
        rw [List.length_take, hlen, blob_length _ _ _ _ hp hn ht]; omega
      rw [blob_drop_eph _ _ _ _ hp] at hrest
      have hbl : blob' = blob'.take 32 ++ nonce ++ (E.aeadSeal (E.derive s) nonce l).1 ++ (E.aeadSeal (E.derive s) nonce l).2 := by
        rw [List.append_assoc, List.append_assoc, ← List.append_assoc nonce, ← hrest, List.take_append_drop]
      rw [hbl]
      refine decrypt_wrong_secret E derive_inj aead_wrong_key cookie _ sk hc hsk he' hn ht fun hd => hne ?_
      rw [hbl, dh_inj sk _ (E.pub eph) s hsk he' hp hcan (canon_pub eph) hd hdh]
    · exact decrypt_not_canonical E cookie blob' sk hnc
  · intro sk' hdiff
    by_cases hsk' : sk'.length = 32
    · exact decrypt_wrong_secret E derive_inj aead_wrong_key cookie _ sk' hc hsk' hp hn ht (fun hd => hdiff (hd.trans hdh.symm))
    · unfold decryptLS2
      rw [if_neg (by omega), if_pos hsk']

/-- **Every single-byte modification (partial)** — the literal clause of the property, as a corollary:
    overwriting position `i` of the blob with a different value is rejected; for `i < 32` (the ephemeral
    key) under the proviso that the modified key is `canon` (see `tamper_partial`). -/
theorem tamper_single_byte_partial (E : EncScheme) (canon : Bytes → Prop)
    (dh_comm : DhComm E) (pub_len : PubLen E) (pub_canonical : PubCanonical E) (tag_len : TagLen E)
    (derive_inj : DeriveInj E) (dh_inj : DhInjOn E canon) (canon_pub : ∀ a, canon (E.pub a))
    (l sk eph nonce cookie blob s : Bytes)
    (hsk : sk.length = 32) (heph : eph.length = 32) (hc : cookie.length = 32)
    (henc : encryptLS2 E l (E.pub sk) eph nonce = some blob) (hs : E.dh eph (E.pub sk) = some s)
    (aead_auth : AeadAuthAt E (E.derive s) nonce l) (aead_wrong_key : AeadWrongKeyAt E (E.derive s) nonce l)
    (i : Nat) (v : UInt8) (hi : i < blob.length) (hv : blob[i] ≠ v)
    (hcanon : i < 32 → canon ((blob.set i v).take 32) ∨ ephCanonical ((blob.set i v).take 32) = false) :
    decryptLS2 E cookie (blob.set i v) sk = none := by
  refine (tamper_partial E canon dh_comm pub_len pub_canonical tag_len derive_inj dh_inj canon_pub l sk eph nonce cookie blob s
    hsk heph hc henc hs aead_auth aead_wrong_key).1 (blob.set i v) (by simp) ?_ ?_
  · intro h
    have := congrArg (fun b => b[i]?) h
    simp [hi] at this
    exact hv this.symm
  · by_cases h32 : i < 32
    · exact Or.inr ⟨List.drop_set_of_lt h32, hcanon h32⟩
    · exact Or.inl (List.take_set_of_le (by omega))

/-- **Residual malleability.**  Replacing the ephemeral key by a 32-byte string with bit 255 clear and the same
    shared secret yields a different blob that decrypts to the same LeaseSet2 — which is why `tamper_partial`
    still needs `canon` after the fix of D10. -/
theorem eph_malleable (E : EncScheme) (dh_comm : DhComm E) (aead_correct : AeadCorrect E)
    (pub_len : PubLen E) (tag_len : TagLen E)
    (l sk eph nonce cookie blob e' : Bytes) (hl : ValidLS2 l)
    (hsk : sk.length = 32) (heph : eph.length = 32) (hc : cookie.length = 32)
    (henc : encryptLS2 E l (E.pub sk) eph nonce = some blob)
    (he' : e'.length = 32) (hne : e' ≠ E.pub eph) (hcan : ephCanonical e' = true)
    (hsame : E.dh sk e' = E.dh sk (E.pub eph)) :
    e' ++ blob.drop 32 ≠ blob ∧ (e' ++ blob.drop 32).length = blob.length ∧
      decryptLS2 E cookie (e' ++ blob.drop 32) sk = some l := by
  obtain ⟨-, s, hs, hn, rfl⟩ := encrypt_some.mp henc
  have hp := pub_len eph heph
  have ht := tag_len (E.derive s) nonce l
  rw [blob_drop_eph _ _ _ _ hp, ← List.append_assoc, ← List.append_assoc]
  refine ⟨fun h => hne ((blob_split e' nonce _ _ he' hn).1.symm.trans (h ▸ (blob_split _ nonce _ _ hp hn).1)), ?_, ?_⟩
  · rw [blob_length _ _ _ _ he' hn ht, blob_length _ _ _ _ hp hn ht]
  · exact decrypt_sealed E aead_correct hl cookie e' nonce sk s hc hsk he' hn ht hcan (by rw [hsame, dh_comm sk eph, hs])

/-- **D10 is closed**: a replacement ephemeral key with bit 255 set is rejected whatever its shared secret. -/
theorem eph_top_bit_rejected (E : EncScheme) (cookie blob' sk : Bytes) (hlen : minBlob ≤ blob'.length)
    (h : ephCanonical (blob'.take 32) = false) : decryptLS2 E cookie blob' sk = none := by
  have _ := hlen  -- not needed: a blob too short for the length check is refused as well
  exact decrypt_not_canonical E cookie blob' sk h

/-! ## Blinding -/

/-- **The date is a function of the instant, not of the `Location`.** -/
theorem utcDay_location_independent (s off off' : Int) : utcDay s off = utcDay s off' := rfl

/-- … and of the instant only through its UTC day number `⌊s / 86400⌋`. -/
theorem utcDay_day_only (s s' off off' : Int) (h : s / 86400 = s' / 86400) : utcDay s off = utcDay s' off' := by
  simp only [utcDay, formatDay, inZone, GoInstant.utc, Int.add_zero, h]

/-- Contrast (mutant M43): formatting the *local* day does depend on the `Location`. -/
theorem localDay_location_dependent : ∃ s off, localDay s off ≠ localDay s 0 :=
  ⟨86399, 3600, by decide⟩

/-- **Blinding is a function of (destination, secret, UTC day)**: equal date strings — in particular the same
    instant in two zones, or two instants of the same UTC day — give the same result, error or value. -/
theorem blind_function_of_utc_day (B : BlindScheme) (d : Dest) (secret : Bytes) (s s' off off' : Int)
    (h : s / 86400 = s' / 86400) : createBlinded B d secret s off = createBlinded B d secret s' off' := by
  unfold createBlinded
  rw [utcDay_day_only s s' off off' h]

/-- **What is kept, what changes, what is refused.**  A blinded destination keeps encryption key, padding,
    certificate (and signing type); its signing key is `blind key (factor secret date)` for the UTC date;
    secrets shorter than 32 bytes and signing types other than 7 and 11 are errors. -/
theorem blind_keeps (B : BlindScheme) (d d' : Dest) (secret : Bytes) (s off : Int)
    (h : createBlinded B d secret s off = some d') :
    d'.encKey = d.encKey ∧ d'.padding = d.padding ∧ d'.cert = d.cert ∧ d'.sigType = d.sigType ∧
    32 ≤ secret.length ∧ (d.sigType = 7 ∨ d.sigType = 11) ∧
    ∃ date, utcDay s off = some date ∧ B.blind d.sigKey (B.factor secret date) = some d'.sigKey := by
  obtain ⟨ht, hs, _, date, k, hu, hb, rfl⟩ := createBlinded_some h
  exact ⟨rfl, rfl, rfl, rfl, hs, ht, date, hu, hb⟩

/-- The signing key really changes whenever `blind` has no fixed point at the derived factor (for
    edwards25519: whenever the factor is not the zero scalar). -/
theorem blind_new_key (B : BlindScheme) (d d' : Dest) (secret : Bytes) (s off : Int)
    (no_fixed_point : ∀ date, B.blind d.sigKey (B.factor secret date) ≠ some d.sigKey)
    (h : createBlinded B d secret s off = some d') : d'.sigKey ≠ d.sigKey := by
  obtain ⟨_, _, _, _, _, _, date, _, hb⟩ := blind_keeps B d d' secret s off h
  intro he
  rw [he] at hb
  exact no_fixed_point date hb

/-- **The library's own check.**  For every destination that can be blinded (signing type 7 or 11): the
    blinded destination passes `VerifyBlindedSignature` with the derived factor and, `blind` being injective
    in the factor, with no other. -/
theorem blind_verify (B : BlindScheme) (blind_inj : BlindInj B) (blind_len : BlindLen B)
    (d d' : Dest) (secret date : Bytes) (s off : Int)
    (h : createBlinded B d secret s off = some d') (hd : utcDay s off = some date) (alpha : Bytes) :
    verifyBlinded B d' d alpha = true ↔ alpha = B.factor secret date := by
  obtain ⟨ht, _, hl, date', k, hd', hb, rfl⟩ := createBlinded_some h
  rw [hd] at hd'; cases hd'
  unfold verifyBlinded
  rw [ed25519KeyOf_some ht hl, ed25519KeyOf_some (d := { d with sigKey := k }) ht (blind_len _ _ _ hb)]
  simp only [beq_iff_eq]
  exact ⟨fun hv => blind_inj _ _ _ _ hv hb, fun hv => by rw [hv]; exact hb⟩

/-- destinations of any other signing type are never accepted by the check, whatever the factor -/
theorem verify_rejects_other_types (B : BlindScheme) (d d' : Dest) (alpha : Bytes) (h : d.sigType ≠ 7 ∧ d.sigType ≠ 11) :
    verifyBlinded B d' d alpha = false := by
  unfold verifyBlinded
  have : ed25519KeyOf d = none := by unfold ed25519KeyOf; rw [if_pos h]
  rw [this]

/-! ## The hypothesis sets are satisfiable -/

example : DhComm toyLaws ∧ DhDefined toyLaws ∧ AeadCorrect toyLaws ∧ PubLen toyLaws ∧ PubCanonical toyLaws ∧
    TagLen toyLaws ∧ CtLen toyLaws :=
  ⟨fun _ _ => rfl, fun _ _ _ _ => rfl, fun _ _ _ => rfl, fun _ _ => by simp [toyLaws], fun _ => by show ephCanonical (List.replicate 32 0) = true; decide,
   fun _ _ _ => by simp [toyLaws], fun _ _ _ => rfl⟩

/-- the LeaseSet2 hypothesis is satisfiable (a concrete accepted LeaseSet2 from the STRUCT proofs) -/
example : ValidLS2 exLS2 := ⟨exLS2, exLS2_reads⟩

example (sk eph n0 l0 : Bytes) :
    let E := toyIdeal (List.zipWith (· + ·) eph sk) n0 l0
    DhComm E ∧ PubLen E ∧ TagLen E ∧ DeriveInj E ∧ DhInjOn E (fun _ => True) ∧ (∀ a, (fun _ => True) (E.pub a)) ∧
      ∃ s, E.dh eph (E.pub sk) = some s ∧ AeadAuthAt E (E.derive s) n0 l0 ∧ AeadWrongKeyAt E (E.derive s) n0 l0 := by
  refine ⟨?_, fun _ h => h, fun _ _ _ => by simp [toyIdeal], fun _ _ h => h, ?_, fun _ => trivial, _, rfl, ?_, ?_⟩
  · intro a b
    show some (List.zipWith (· + ·) a b) = some (List.zipWith (· + ·) b a)
    rw [List.zipWith_comm]
    simp [UInt8.add_comm]
  · intro sk' e e' s hsk he he' _ _ h1 h2
    have h1' : List.zipWith (· + ·) sk' e = s := Option.some.inj h1
    have h2' : List.zipWith (· + ·) sk' e' = s := Option.some.inj h2
    exact zipAdd_inj sk' e e' (by omega) (by omega) (h1'.trans h2'.symm)
  · intro n' c' t' h
    simp only [toyIdeal] at h ⊢
    split at h
    · rename_i hc; exact ⟨hc.2.1, hc.2.2.1, hc.2.2.2⟩
    · cases h
  · intro k' hk
    simp only [toyIdeal, id] at hk ⊢
    rw [if_neg (fun h => hk h.1)]

/-- toy blinding scheme for `BlindInj`, `BlindLen` -/
example : ∃ B : BlindScheme, BlindInj B ∧ BlindLen B :=
  ⟨{ factor := fun s _ => s, blind := fun _ a => if a.length = 32 then some a else none },
   fun _ a a' r h h' => by
     simp only at h h'
     split at h <;> split at h' <;> simp_all,
   fun _ a r h => by
     simp only at h
     split at h
     · cases h; assumption
     · cases h⟩

end I2P.Props.C16
