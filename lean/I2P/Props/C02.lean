import I2P.Proofs.SpecLemmas
import I2P.Proofs.DataLemmas
import I2P.Proofs.SpecLemmasMeta
import I2P.Proofs.SpecLemmasRouter
/-! # C02 — wire format agrees with the I2P 0.9.67 specification, both directions

The property theorems; the lemmas about single stages of the readers live in `I2P/Proofs/SpecLemmas*.lean`.

* The SPEC side is `I2P/Spec/Structs.lean`: records holding exactly the specification's fields and a
  `Codec` per structure (`encode = codec.write`, `decode = codec.read`, `wf = codec.wf`) built from the
  lawful combinators of `I2P/Spec/Codec.lean`.  It never mentions the model of the code.
* The CODE side is the code-mirroring model `I2P/Kac.lean`, `I2P/Mapping.lean`, `I2P/Structs.lean`
  (tied to /repo by the correspondence runs of C01/C03).  Its readers return the re-serialisation
  (`Bytes()`) of the accepted value and the remainder.

(→)  `X_accepts`:   spec-wf v → Accepted v → reader (encode v ++ x) = some (encode v, x)
     — every well-formed encoding is accepted, exactly the encoding is consumed, `Bytes()` reproduces it;
     `X_roundtrip`: spec-wf v → decode (encode v ++ x) = some (v, x)
     — the encoding determines every field value (so "exposes exactly the encoded field values" has
     content: the parser's `Bytes()` equals an encoding from which the spec decoder recovers all fields).
(←)  `…_decodes`: what a modelled constructor / serialiser emits decodes to the argument fields.

Every hypothesis named `…Accepted` / `…Supported` is a RESTRICTION OF THE PARSER relative to the
layout; each field is documented where the structure is declared (Proofs/SpecLemmas*.lean) and listed
in the doc comment of the theorem using it. -/

namespace I2P.Props.C02
open I2P.Spec I2P.Kac I2P.Structs I2P.Mapping I2P.SpecLemmas

/-! ## (→) identities -/

/-- KeysAndCert.  Restriction: `KacSupported` = signing type ∈ {0,1,2,7,8,11} and crypto type ∈ {0,4,5,6,7}
    (the types whose keys the library can construct; P521 and RSA signing keys, P256/P384/P521 crypto
    keys are in the specification's tables but are refused). -/
theorem keysAndCert_accepts (v : SIdentity) (x : Bytes) (h : v.wf) (hs : KacSupported v) :
    ∃ k, readKac (identityCodec.write v ++ x) = some (k, x) ∧ k.bytes = some (identityCodec.write v) ∧
      k.pub = v.cryptoKey ∧ k.padding = v.padding ∧ k.sig = v.sigKey ∧ k.kc.spk = v.sigType ∧ k.kc.cpk = v.cryptoType :=
  identity_readKac v x h hs

/-- Destination: additionally the Destination key-type policy (`destAllowed`). -/
theorem destination_accepts (v : SIdentity) (x : Bytes) (h : v.wf) (hs : DestSupported v) :
    ∃ k, readDestination (identityCodec.write v ++ x) = some (k, x) ∧ k.bytes = some (identityCodec.write v) ∧
      k.pub = v.cryptoKey ∧ k.padding = v.padding ∧ k.sig = v.sigKey ∧ k.kc.spk = v.sigType ∧ k.kc.cpk = v.cryptoType :=
  identity_readPolicy readDestination_iff v x h hs.1 hs.2

/-- RouterIdentity: additionally the RouterIdentity key-type policy (`ridAllowed`). -/
theorem routerIdentity_accepts (v : SIdentity) (x : Bytes) (h : v.wf) (hs : KacSupported v)
    (ha : ridAllowed v.sigType v.cryptoType = true) :
    ∃ k, readRouterIdentity (identityCodec.write v ++ x) = some (k, x) ∧ k.bytes = some (identityCodec.write v) ∧
      k.pub = v.cryptoKey ∧ k.padding = v.padding ∧ k.sig = v.sigKey ∧ k.kc.spk = v.sigType ∧ k.kc.cpk = v.cryptoType :=
  identity_readPolicy readRouterIdentity_iff v x h hs ha

/-- key alignment inside the 384-byte block is part of the agreement: the crypto key is the first
    bytes of the encoding, the signing key its bytes ending at offset 384 -/
theorem identity_key_alignment (v : SIdentity) (h : v.wf) :
    (identityCodec.write v).take v.cryptoKey.length = v.cryptoKey ∧
    ((identityCodec.write v).take 384).drop (384 - v.sigKey.length) = v.sigKey := by
  have hb := identity_block_length v h
  rw [identityCodec_write]
  refine ⟨?_, ?_⟩
  · rw [List.append_assoc]; exact List.take_left' rfl
  · rw [List.take_left' hb, ← List.append_assoc]
    refine List.drop_left' ?_
    simp only [List.length_append] at hb ⊢
    omega

/-! ## (→) Mapping -/

/-- Restrictions (`MappingAccepted`): no duplicate keys; at most 1000 pairs (the parser stops there). -/
theorem mapping_accepts (m : SMapping) (x : Bytes) (h : SMapping.wf m) (ha : MappingAccepted m) :
    accepted (readMapping (mappingCodec.write m ++ x)) = true ∧
    (readMapping (mappingCodec.write m ++ x)).rem = x ∧
    Mapping.data (readMapping (mappingCodec.write m ++ x)) = some (mappingCodec.write m) ∧
    ((readMapping (mappingCodec.write m ++ x)).vals.map fun ps => ps.map dec) = some m := by
  refine ⟨mapping_accepted m x h ha, ?_, mapping_data m x h ha, ?_⟩
  · rw [mapping_readMapping m x h ha]
  · rw [mapping_readMapping m x h ha]
    show some ((m.map enc).map dec) = some m
    rw [map_dec_enc m h.1]

/-! ## (→) Lease, Lease2, OfflineSignature, Signature -/

theorem lease_accepts (v : SLease) (x : Bytes) (h : v.wf) :
    readFixedN 44 (leaseCodec.write v ++ x) = some (leaseCodec.write v, x) :=
  fixed_readFixed 1 44 (lease_write_length v h)

theorem lease2_accepts (v : SLease2) (x : Bytes) (h : v.wf) :
    readFixedN 40 (lease2Codec.write v ++ x) = some (lease2Codec.write v, x) :=
  fixed_readFixed 1 40 (lease2_write_length v h)

/-- the transient type handed on is the encoded one -/
theorem offlineSignature_accepts (destType : Nat) (v : SOfflineSig) (x : Bytes) (h : v.wf destType) :
    readOffSig ((offlineCodec destType).write v ++ x) destType = some ((offlineCodec destType).write v, x, v.transientType) :=
  offline_readOffSig destType v x h

theorem signature_accepts (s x : Bytes) (t : Nat) (hl : s.length = sigLen t) (h0 : sigLen t ≠ 0) :
    readSig (s ++ x) t = some (s, x) := sig_readSig hl h0

/-! ## (→) the composite structures -/

/-- LeaseSet2.  Restrictions (`LeaseSet2Accepted`): destination key types the library supports and the
    Destination policy; options without duplicate keys and with at most 1000 pairs; and the encoding must
    have at least 499 bytes (`LEASESET2_MIN_SIZE`) — the layout allows shorter ones (finding D30).
    Counts: 1..16 keys, 0..16 leases, any key type code with an explicit length: all in `SLeaseSet2.wf`. -/
theorem leaseSet2_accepts (v : SLeaseSet2) (x : Bytes) (h : v.wf) (ha : LeaseSet2Accepted v) :
    readLeaseSet2 (leaseSet2Codec.write v ++ x) = some (leaseSet2Codec.write v, x) := by
  obtain ⟨hd, hp, he, hf, hoff, hm, ⟨hk1, hk16, hkw⟩, ⟨hl16, hlw⟩, hsg⟩ := h
  obtain ⟨nk, ek, hnk⟩ := count_byte (n := v.keys.length) (by omega)
  obtain ⟨nl, el, hnl⟩ := count_byte (n := v.leases.length) (by omega)
  have hsig0 := finalSig_ne v.dest.sigType v.flags v.offline (sigLen_of_constructible ha.dest.1.1) hoff
  rw [readLeaseSet2_some]
  refine ⟨by rw [List.length_append]; exact Nat.le_trans ha.minSize (Nat.le_add_right _ _), ?_⟩
  rw [leaseSet2Codec_write, ek, el]
  simp only [List.append_assoc]
  exact ⟨_, _, _, hdr_of_parts hd ha.dest hf hoff hm ha.options,
    ls2Tail_of_parts (hnk ▸ hk1) (hnk ▸ hk16) (keys_readKeys v.keys _ [] hnk hkw) (hnl ▸ hl16)
      (fixed_readFixed _ 40 (hnl ▸ leases2_length v.leases hlw))
      (sig_readSig hsg hsig0) (by simp only [List.append_assoc])⟩

/-- MetaLeaseSet.  Restrictions (`MetaLeaseSetAccepted`): as for LeaseSet2, for the options and for every
    entry's properties; at least 505 bytes (`META_LEASESET_MIN_SIZE`, finding D31). -/
theorem metaLeaseSet_accepts (v : SMetaLeaseSet) (x : Bytes) (h : v.wf) (ha : MetaLeaseSetAccepted v) :
    readMeta (metaLeaseSetCodec.write v ++ x) = some (metaLeaseSetCodec.write v, x) := by
  obtain ⟨hd, hp, he, hf, hoff, hm, ⟨he1, he16, hew⟩, hsg⟩ := h
  obtain ⟨ne, ee, hne⟩ := count_byte (n := v.entries.length) (by omega)
  have hsig0 := finalSig_ne v.dest.sigType v.flags v.offline (sigLen_of_constructible ha.dest.1.1) hoff
  rw [readMeta_some]
  refine ⟨by rw [List.length_append]; exact Nat.le_trans ha.minSize (Nat.le_add_right _ _), ?_⟩
  rw [metaLeaseSetCodec_write, ee]
  simp only [List.append_assoc]
  exact ⟨_, _, _, hdr_of_parts hd ha.dest hf hoff hm ha.options,
    metaTail_of_parts (hne ▸ he1) (hne ▸ he16) (entries_readEntries v.entries _ [] hne hew ha.properties)
      (sig_readSig hsg hsig0) (by simp only [List.append_assoc])⟩

/-- EncryptedLeaseSet.  Restrictions (`EncryptedLeaseSetAccepted`): reserved flag bits zero, expires ≠ 0,
    at least 61 bytes of inner data (the reader runs `Validate`). -/
theorem encryptedLeaseSet_accepts (v : SEncryptedLeaseSet) (x : Bytes) (h : v.wf) (ha : EncryptedLeaseSetAccepted v) :
    readELS (encryptedLeaseSetCodec.write v ++ x) = some (encryptedLeaseSetCodec.write v, x) := by
  obtain ⟨⟨hst, hks⟩, hbk, hp, he, -, hoff, hin, hsg⟩ := h
  have hsig0 := finalSig_ne v.sigType v.flags v.offline (sigLen_ne_of_pub _ hks) hoff
  have hk32 := sigPubSize_ge v.sigType hks
  have hs40 := sigLen_ge _ hsig0
  have h61 := ha.inner
  rw [encryptedLeaseSetCodec_write]
  simp only [List.append_assoc]
  refine readELS_of_tail v.sigType v.blindedKey _ _ _ hst hks hbk
    (by simp only [List.length_append, beEnc_length]; omega) ?_
  exact elsTail_of_parts he (Nat.div_eq_of_lt ha.flags) ha.expires (offline_offStage v.flags v.sigType v.offline _ hoff)
    (beEnc_length _ _) (beVal_beEnc 2 _ hin) h61 (sig_readSig hsg hsig0) (by simp only [List.append_assoc])

/-- RouterAddress.  Restriction: options without duplicate keys, at most 1000 pairs. -/
theorem routerAddress_accepts (v : SRouterAddress) (x : Bytes) (h : v.wf) (ha : MappingAccepted v.options) :
    readRouterAddress (routerAddressCodec.write v ++ x) = some (routerAddressCodec.write v, x) :=
  routerAddress_readRouterAddress v x h ha

/-- RouterInfo.  Restrictions (`RouterInfoAccepted`): identity key types / RouterIdentity policy; no peer
    hashes (`peers = []`: the parser reads the count byte only); mappings as above.  0..255 addresses. -/
theorem routerInfo_accepts (v : SRouterInfo) (x : Bytes) (h : v.wf) (ha : RouterInfoAccepted v) :
    readRouterInfo (routerInfoCodec.write v ++ x) = some (routerInfoCodec.write v, x) := by
  obtain ⟨hd, hp, ⟨ha255, haw⟩, -, hm, hsg⟩ := h
  obtain ⟨n, en, hn⟩ := count_byte (n := v.addresses.length) (by omega)
  have hsig0 := sigLen_of_constructible ha.ident.1.1
  rw [routerInfoCodec_write, ha.peers, en, List.length_nil, show beEnc 1 0 = [0] from rfl]
  simp only [writeAll_nil, List.append_nil, List.append_assoc]
  apply readRouterInfo_of_tail hd ha.ident.1 ha.ident.2
  exact riTail_of_parts (beEnc_length 8 v.published)
    (addrs_readAddrs v.addresses _ [] hn haw ha.addresses) (mapping_accepted _ (v.signature ++ x) hm ha.options)
    (by rw [mapping_readMapping _ _ hm ha.options]; exact sig_readSig hsg hsig0)
    (by rw [mapping_data _ _ hm ha.options]; simp only [Option.getD_some, List.append_assoc])

/-- LeaseSet (type 1).  Restrictions (`LeaseSetAccepted`): destination as above; the ElGamal key VALUE and,
    for a NULL-certificate destination, the DSA revocation key VALUE are range-checked. -/
theorem leaseSet_accepts (v : SLeaseSet) (x : Bytes) (h : v.wf) (ha : LeaseSetAccepted v) :
    readLeaseSet (leaseSetCodec.write v ++ x) = some (leaseSetCodec.write v, x) := by
  obtain ⟨hd, hek, hsk, ⟨hl16, hlw⟩, hsg⟩ := h
  obtain ⟨n, en, hn⟩ := count_byte (n := v.leases.length) (by omega)
  rw [leaseSetCodec_write, en]
  simp only [List.append_assoc]
  apply readLeaseSet_of_tail hd ha.dest
  exact lsTail_of_parts hek
    (by rw [identity_sizeBy v.dest hd sigPubSize 128 (by decide), hsk])
    (by rw [identity_sizeBy v.dest hd sigLen 40 (by decide), hsg])
    ha.encKeyValue
    (by cases hc : v.dest.nullCert with
        | true => exact Or.inr (ha.signingKeyValue hc)
        | false => exact Or.inl rfl)
    (hn ▸ hl16) (hn ▸ leases_length v.leases hlw)

/-! ## the spec codec round-trips: the encoding determines every field -/

theorem identity_roundtrip (v : SIdentity) (x : Bytes) (h : v.wf) :
    identityCodec.read (identityCodec.write v ++ x) = some (v, x) := identityCodec.complete x h
theorem mapping_roundtrip (m : SMapping) (x : Bytes) (h : SMapping.wf m) :
    mappingCodec.read (mappingCodec.write m ++ x) = some (m, x) := mappingCodec.complete x ((mappingCodec_wf m).2 h)
theorem lease_roundtrip (v : SLease) (x : Bytes) (h : v.wf) :
    leaseCodec.read (leaseCodec.write v ++ x) = some (v, x) := leaseCodec.complete x h
theorem lease2_roundtrip (v : SLease2) (x : Bytes) (h : v.wf) :
    lease2Codec.read (lease2Codec.write v ++ x) = some (v, x) := lease2Codec.complete x h
theorem offlineSignature_roundtrip (t : Nat) (v : SOfflineSig) (x : Bytes) (h : v.wf t) :
    (offlineCodec t).read ((offlineCodec t).write v ++ x) = some (v, x) := (offlineCodec t).complete x h
theorem leaseSet2_roundtrip (v : SLeaseSet2) (x : Bytes) (h : v.wf) :
    leaseSet2Codec.read (leaseSet2Codec.write v ++ x) = some (v, x) := leaseSet2Codec.complete x ((leaseSet2Codec_wf v).2 h)
theorem metaLeaseSet_roundtrip (v : SMetaLeaseSet) (x : Bytes) (h : v.wf) :
    metaLeaseSetCodec.read (metaLeaseSetCodec.write v ++ x) = some (v, x) :=
  metaLeaseSetCodec.complete x ((metaLeaseSetCodec_wf v).2 h)
theorem encryptedLeaseSet_roundtrip (v : SEncryptedLeaseSet) (x : Bytes) (h : v.wf) :
    encryptedLeaseSetCodec.read (encryptedLeaseSetCodec.write v ++ x) = some (v, x) :=
  encryptedLeaseSetCodec.complete x ((encryptedLeaseSetCodec_wf v).2 h)
theorem leaseSet_roundtrip (v : SLeaseSet) (x : Bytes) (h : v.wf) :
    leaseSetCodec.read (leaseSetCodec.write v ++ x) = some (v, x) := leaseSetCodec.complete x ((leaseSetCodec_wf v).2 h)
theorem routerAddress_roundtrip (v : SRouterAddress) (x : Bytes) (h : v.wf) :
    routerAddressCodec.read (routerAddressCodec.write v ++ x) = some (v, x) := routerAddressCodec.complete x h
theorem routerInfo_roundtrip (v : SRouterInfo) (x : Bytes) (h : v.wf) :
    routerInfoCodec.read (routerInfoCodec.write v ++ x) = some (v, x) := routerInfoCodec.complete x ((routerInfoCodec_wf v).2 h)

/-- two well-formed values with the same encoding (even followed by different streams) are the same
    value: no field is lost or confused by the layout (instance for LeaseSet2; holds for every codec) -/
theorem leaseSet2_encoding_injective (a b : SLeaseSet2) (x y : Bytes) (ha : a.wf) (hb : b.wf)
    (h : leaseSet2Codec.write a ++ x = leaseSet2Codec.write b ++ y) : a = b ∧ x = y :=
  leaseSet2Codec.write_append_inj ((leaseSet2Codec_wf a).2 ha) ((leaseSet2Codec_wf b).2 hb) h

/-- whatever the spec decoder accepts is well-formed and is the encoding it was read from
    (`sound` + `consumed`; instance for LeaseSet2) -/
theorem leaseSet2_decode_sound (w : Bytes) (v : SLeaseSet2) (r : Bytes) (h : leaseSet2Codec.read w = some (v, r)) :
    v.wf ∧ leaseSet2Codec.write v ++ r = w :=
  ⟨(leaseSet2Codec_wf v).1 (leaseSet2Codec.sound h), leaseSet2Codec.consumed h⟩

/-- (→) composed with the round trip: the bytes the parser model re-serialises decode, with the
    independent decoder, to exactly the encoded value -/
theorem leaseSet2_exposes_fields (v : SLeaseSet2) (x : Bytes) (h : v.wf) (ha : LeaseSet2Accepted v) :
    ∃ b, readLeaseSet2 (leaseSet2Codec.write v ++ x) = some (b, x) ∧ leaseSet2Codec.read b = some (v, []) :=
  ⟨_, leaseSet2_accepts v x h ha, leaseSet2Codec.read_write ((leaseSet2Codec_wf v).2 h)⟩

/-! ## (←) what the modelled constructors and serialisers emit decodes to the arguments -/

/-- `data.NewIntegerFromInt(v, n)` (`v` a non-negative Go `int`, `1 ≤ n ≤ 8`): the bytes are the n-byte
    big-endian Integer of the layout -/
theorem newInteger_decodes (v n : Nat) (b : Bytes) (hn1 : 1 ≤ n) (hn8 : n ≤ 8) (hv : v < 2 ^ 63)
    (h : newIntegerFromInt (v : Int) (n : Int) = some b) : (beInt n).read b = some (v, []) := by
  obtain ⟨hlt, rfl⟩ := Option.ite_some_none_eq_some.1 ((newInt_nat v n hn1 hn8 hv).symm.trans h)
  exact (beInt n).read_write hlt

/-- `data.NewI2PString` / `ToI2PString`: the bytes are the String of the layout -/
theorem newString_decodes (s b : Bytes) (h : newStr s = some b) : str.read b = some (s, []) := by
  obtain ⟨hl, hb⟩ := Option.ite_none_left_eq_some.1 h
  cases hb
  have hw : str.write s = UInt8.ofNat s.length :: s := congrArg (· ++ s) (beEnc_one s.length)
  rw [← hw]
  exact str.read_write (show s.length < 256 ^ 1 by omega)

/-- `data.GoMapToMapping` (a Go map = association list in SOME iteration order, distinct keys): whenever
    it succeeds, `Mapping.Data()` of the result decodes — with the independent decoder — to exactly the
    pairs of the map, in the specification's canonical order (strictly increasing keys), nothing left over -/
theorem goMapToMapping_decodes (m : List (Bytes × Bytes)) (ps : List Pair) (hd : (m.map (·.1)).Nodup)
    (h : goMapToMapping m = some ps) :
    ∃ l, mappingCodec.read (dataOf ps) = some (l, []) ∧ l.Perm m ∧ l.Pairwise (fun a b => bytesLt a.1 b.1 = true) := by
  by_cases hw : Short m ∧ (m.map fun p => p.1.length + p.2.length + 4).sum ≤ 65535
  case neg => rw [goMapToMapping_none m hw] at h; cases h
  rw [goMapToMapping_some m hw.1 hw.2] at h
  cases h
  have hperm := sortPairs_enc_dec_perm m hw.1
  refine ⟨(sortPairs (m.map enc)).map dec, ?_, hperm, sortPairs_enc_strict m hw.1 hd⟩
  have hshort : Short ((sortPairs (m.map enc)).map dec) := (Short_perm hperm).mpr hw.1
  have hencdec : ((sortPairs (m.map enc)).map dec).map enc = sortPairs (m.map enc) := by
    rw [List.map_map]
    refine (List.map_congr_left fun q hq => ?_).trans (List.map_id _)
    obtain ⟨p, hp, rfl⟩ := List.mem_map.mp ((sortPairs_perm (m.map enc)).mem_iff.mp hq)
    exact congrArg enc (dec_enc p (hw.1 p hp))
  have hwrite : mappingCodec.write ((sortPairs (m.map enc)).map dec) = dataOf (sortPairs (m.map enc)) := by
    rw [mapping_write_eq _ hshort, hencdec]
  rw [← hwrite]
  apply mappingCodec.read_write
  rw [mappingCodec_wf]
  refine ⟨hshort, ?_⟩
  have : SMapping.bodySize ((sortPairs (m.map enc)).map dec) = (m.map fun p => p.1.length + p.2.length + 4).sum :=
    (hperm.map _).sum_nat
  rw [this]; exact hw.2

/-- `certificate.NewCertificateWithType(5, types ‖ extra)` + `KeysAndCert.Bytes()` (the serialiser behind
    `NewKeysAndCert`, `NewDestination`, `NewRouterIdentity`): for keys and padding of the sizes the
    certificate demands, the bytes decode to exactly the argument fields -/
def keyIdentity (s c : Nat) (pub pad sk extra : Bytes) : SIdentity :=
  { nullCert := false, sigType := s, cryptoType := c, cryptoKey := pub, padding := pad, sigKey := sk, certExtra := extra }

theorem keysAndCert_bytes_decodes (s c : Nat) (pub pad sk extra : Bytes) (cert : Cert)
    (hs : sigPubSize s ≠ 0) (hs128 : sigPubSize s ≤ 128) (hc : cryptoSize c ≠ 0)
    (hcert : newCertWithType 5 (beEnc 2 s ++ (beEnc 2 c ++ extra)) = some cert)
    (hpub : pub.length = cryptoSize c) (hsk : sk.length = sigPubSize s)
    (hpad : pad.length = 384 - cryptoSize c - sigPubSize s) :
    ∃ b, KeysAndCert.bytes { kc := { cert := cert, spk := s, cpk := c }, pub := pub, padding := pad, sig := sk } = some b ∧
      identityCodec.read b = some (keyIdentity s c pub pad sk extra, []) := by
  obtain ⟨hex, hcb⟩ := newCertWithType_five hcert
  have hlen : (beEnc 2 s ++ (beEnc 2 c ++ extra)).length = 4 + extra.length := by
    simp only [List.length_append, beEnc_length]; omega
  have hc256 := cryptoSize_le c
  refine ⟨_, bytes_of_fields ⟨⟨cert, s, c⟩, pub, pad, sk⟩ hc256 hs128 hpub hsk hpad, ?_⟩
  have hw : identityCodec.write (keyIdentity s c pub pad sk extra) = pub ++ pad ++ sk ++ cert.bytes := by
    rw [identityCodec_write, hcb]
    simp only [keyIdentity, SIdentity.certType, SIdentity.certPayload, Bool.false_eq_true, if_false, List.append_assoc]
  rw [← hw]
  exact identityCodec.read_write
    (SIdentity.wf_key.2 ⟨hc, hs, hs128, hpub, hsk, hpad, Nat.le_of_add_le_add_left (a := 4) (hlen ▸ hex)⟩)

/-! ## non-vacuity: the hypotheses are satisfiable -/

/-- a concrete LeaseSet2 (Ed25519/X25519 destination, one X25519 key, one lease, no offline block, empty
    options) satisfies `wf` and `LeaseSet2Accepted` -/
def exDest : SIdentity :=
  { nullCert := false, sigType := 7, cryptoType := 4, cryptoKey := List.replicate 32 1, padding := List.replicate 320 2,
    sigKey := List.replicate 32 3, certExtra := [] }

def exLS2 : SLeaseSet2 :=
  { dest := exDest, published := 1, expires := 600, flags := 0, offline := none, options := [],
    keys := [{ keyType := 4, data := List.replicate 32 9 }], leases := [{ gateway := List.replicate 32 5, tunnelId := 7, endDate := 8 }],
    signature := List.replicate 64 6 }

theorem exDest_wf : exDest.wf := by
  simp only [exDest, SIdentity.wf, Bool.false_eq_true, if_false, List.length_replicate]
  decide

theorem exLS2_length : (leaseSet2Codec.write exLS2).length = 543 := by
  rw [leaseSet2Codec_write, identityCodec_write]
  simp only [exLS2, exDest, SIdentity.certType, SIdentity.certPayload, offlineBytes, mappingCodec_write, encKeyCodec_write,
    lease2Codec_write, writeAll_cons, writeAll_nil, Bool.false_eq_true, if_false, List.length_append, List.length_replicate,
    List.length_cons, List.length_nil, beEnc_length]

example : exLS2.wf ∧ LeaseSet2Accepted exLS2 := by
  refine ⟨?_, ⟨⟨⟨rfl, rfl⟩, rfl⟩, ⟨List.nodup_nil, Nat.zero_le _⟩, by rw [exLS2_length]; decide⟩⟩
  refine ⟨exDest_wf, by decide, by decide, by decide, rfl, ⟨fun p hp => absurd hp List.not_mem_nil, Nat.zero_le _⟩,
    ⟨Nat.le_refl _, by decide, ?_⟩, ⟨by decide, ?_⟩, ?_⟩
  · intro k hk
    simp only [exLS2, List.mem_singleton] at hk
    subst hk
    exact ⟨by decide, by simp only [List.length_replicate]; decide⟩
  · intro l hl
    simp only [exLS2, List.mem_singleton] at hl
    subst hl
    exact ⟨List.length_replicate, by decide, by decide⟩
  · show (List.replicate 64 (6 : UInt8)).length = sigLen 7
    rw [List.length_replicate]; rfl

end I2P.Props.C02
