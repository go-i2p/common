import I2P.Conc
import I2P.Gen.Effects
/-! # C18 — shared values may be read concurrently (proof, partial)

*Theorem 1* (`schedule_independent`) is about the abstract machine of `I2P.Conc`: threads without shared
writes see, under EVERY complete schedule, exactly what they see alone; the shared memory is left as it
was; no two executed steps of different threads conflict.  All the substance of C18 is in its premise.

*Theorem 2* (`effects_allowed`) ties that premise to the code.  `I2P.Gen.Effects.facts` is regenerated on
every run from the SSA form of /repo (extract/effects.go): one fact per write-like instruction reachable,
inside the module, from the read-only API (`I2P.Gen.Effects.roots`).  Each fact must lie in the explicit
allowed set below, whose members map to `read`/`writePrivate` steps only:

* class **fresh** — `Store`, `MapUpdate`, `append`, `copy`, `sort` whose target object was allocated during
  the call itself (`new`, `make`, composite literal, result of a call that allocates): a `writePrivate`.
* class **CapTight** — `append` whose base is a slice of the receiver (or of a parameter) named in
  `capTightBases`.  `append s xs` writes into `s`'s backing array iff `len s + len xs ≤ cap s`; for the bases
  listed every parser and constructor establishes `cap s = len s`, so a non-empty `xs` reallocates (a
  `writePrivate` to the new array) and an empty `xs` writes nothing.  That invariant is NOT proved here: it
  is checked on real values of every parser/constructor path by the harness op `!captight`.
  The only base today: `Certificate.kind` in `Certificate.Bytes`/`RawBytes` (`append(c.kind.Bytes(), …)`).
* class **external** — a call that leaves the module and is handed memory the call did not allocate
  (receiver, parameter, package variable).  Functions KNOWN to write through an argument (`binary.PutUint32`,
  `io.ReadFull`, `hex.Encode`, `subtle.ConstantTimeCopy`, `(*bytes.Buffer).Write`, `sync`/`atomic` operations,
  `hash.Hash.Sum` … — a table of library facts in extract/effects.go, like `copy`, `append` and `sort.*`) are
  reported as kind `extwrite` with the origin of the written argument and fall under class *fresh*.  Every
  other external call is reported as `external-call` with the callee's package group and is allowed when the
  group is in `readOnlyExternalGroups`: the logging stack and the error/format constructors (they format their
  arguments; goroutine-safety of the logger is a trusted assumption), go-i2p/crypto (key accessors,
  constructors and verifiers, reached mostly through its interfaces), the universe interface `error`, and the
  value-oriented parts of the standard library.  The rule is per package group, not per function, so that a
  harmless edit (a new validation call into go-i2p/crypto, say) does not break the obligation.  External calls
  that only receive fresh memory are `writePrivate` at worst.

Everything else — a store to a receiver field (a lazily filled cache), to a package variable, a `MapUpdate`
on a map that is not fresh, a sort or copy into receiver memory, an `append` on a new receiver-derived
base, a goroutine, a channel send, a call through a function value, an instruction the slice cannot
classify (`unknown`), an extractor failure — is outside the set and breaks `effects_allowed`.

Not proved (assumptions of the claim): the Go memory model and runtime; that the extractor's backward
slice is sound; goroutine-safety of the external callees.  These are exercised by the harness suite `C18`
under the race detector. -/
namespace I2P.Props.C18
open I2P.Conc

private theorem all_finished {ts : List Thread} {sched : List Nat} (mem : Mem) (hc : complete ts sched) :
    ∀ s ∈ (runMachine (Machine.init ts mem) sched).threads, s.todo = [] := by
  intro s hs
  obtain ⟨j, hj⟩ := List.getElem?_of_mem hs
  have h := run_progress sched (Machine.init ts mem) j
  rw [hj, Machine.init, List.getElem?_map, Option.map_map] at h
  obtain ⟨t, ht, hlen⟩ := Option.map_eq_some_iff.mp h.symm
  obtain ⟨hlt, rfl⟩ := List.getElem?_eq_some_iff.mp ht
  have hdone : ts[j].length - sched.count j = 0 := Nat.sub_eq_zero_of_le (hc j hlt)
  exact List.eq_nil_of_length_eq_zero (hlen.symm.trans hdone)

/-- **Theorem 1.**  For any number of threads, none of which performs a shared write, and EVERY complete
    schedule (of any length): each thread reads exactly what it reads when run alone on the initial
    memory, the shared memory is unchanged afterwards, and no two executed steps of different threads
    conflict.  (Induction on the schedule: `run_ro`, `run_progress`, `trace_ro` in `I2P.Conc`.) -/
theorem schedule_independent (ts : List Thread) (sched : List Nat) (mem : Mem)
    (hro : ∀ t ∈ ts, readOnly t) (hc : complete ts sched) :
    runInterleaved ts sched mem = ts.map (runAlone · mem) ∧
    memAfter ts sched mem = mem ∧
    (∀ x ∈ trace (Machine.init ts mem) sched, ∀ y ∈ trace (Machine.init ts mem) sched,
        x.1 ≠ y.1 → conflict x.2 y.2 = false) := by
  have hinit := init_ro mem hro
  obtain ⟨h1, _, h3⟩ := run_ro sched hinit
  refine ⟨?_, h1, ?_⟩
  · calc runInterleaved ts sched mem
        = (runMachine (Machine.init ts mem) sched).threads.map (·.final mem) :=
          List.map_congr_left fun s hs => by simp [TState.final, all_finished mem hc s hs, runSeq]
      _ = (Machine.init ts mem).threads.map (·.final mem) := h3
      _ = ts.map (runAlone · mem) := by simp [Machine.init, TState.init, TState.final, runAlone, Function.comp_def]
  · intro x hx y hy _
    have hx' := trace_ro sched hinit x hx
    have hy' := trace_ro sched hinit y hy
    simp [conflict, hx', hy']

/-- the static form: the programs of two read-only threads contain no conflicting pair at all -/
theorem no_static_conflict (ts : List Thread) (hro : ∀ t ∈ ts, readOnly t) :
    ∀ t ∈ ts, ∀ u ∈ ts, ∀ a ∈ t, ∀ b ∈ u, conflict a b = false := by
  intro t ht u hu a ha b hb
  simp [conflict, hro t ht a ha, hro u hu b hb]

/-- the hypotheses are satisfiable: three read-only threads (one works on a private copy) and a
    complete schedule that interleaves them -/
example :
    let ts : List Thread := [[.read 0, .read 1], [.writePrivate 0 7, .read 0], [.read 1]]
    (∀ t ∈ ts, readOnly t) ∧ complete ts [2, 0, 1, 0, 1] ∧
      runInterleaved ts [2, 0, 1, 0, 1] (fun l => l + 10) = [[10, 11], [7], [11]] := by
  decide

/-- non-vacuity of the hypothesis: with ONE shared write the results do depend on the schedule — both
    schedules below are complete, the reader sees 0 under one and 1 under the other -/
example :
    let ts : List Thread := [[.read 0], [.writeShared 0 1]]
    complete ts [0, 1] ∧ complete ts [1, 0] ∧
      runInterleaved ts [0, 1] (fun _ => 0) = [[0], []] ∧
      runInterleaved ts [1, 0] (fun _ => 0) = [[1], []] ∧
      conflict (.read 0) (.writeShared 0 1) = true := by
  decide

/-- write-like instruction kinds the extractor reports (`extwrite`: an external function known to write
    through the argument whose origin is given) -/
def writeKinds : List String := ["Store", "MapUpdate", "append", "copy", "sort", "extwrite"]

/-- receiver-derived `append` bases for which `cap = len` is an invariant of every parser and constructor
    (checked on real values by the harness op `!captight`; keep in step with `capTightFields` there) -/
def capTightBases : List String := ["Certificate.kind"]

/-- package groups whose functions may be handed shared memory: they only read it (their known writers are
    reported as `extwrite`/`sort` before this rule applies) -/
def readOnlyExternalGroups : List String := [
  -- logging stack and error/format constructors (format their arguments; logger safety is trusted)
  "github.com/go-i2p/logger", "github.com/sirupsen/logrus", "github.com/samber/oops", "std:fmt", "std:errors", "error",
  -- go-i2p/crypto: key bytes/length accessors, key constructors/validators, verifier construction and use
  "github.com/go-i2p/crypto",
  -- standard library, value-oriented packages
  "std:crypto", "std:encoding", "std:hash", "std:bytes", "std:strings", "std:strconv", "std:unicode", "std:math",
  "std:time", "std:net", "std:sort", "std:slices", "std:maps", "std:cmp"]

/-- the allowed set (see the module comment for the three classes) -/
def allowed (f : String × String × String × String) : Bool :=
  let kind := f.2.1
  let origin := f.2.2.1
  let detail := f.2.2.2
  (writeKinds.contains kind && origin == "fresh")
  || (kind == "append" && (origin == "receiver" || origin == "param") && capTightBases.contains detail)
  || (kind == "external-call" && (origin == "fresh" || readOnlyExternalGroups.contains detail))

/-- **Theorem 2.**  Every effect fact extracted from the current source is in the allowed set. -/
theorem effects_allowed : ∀ f ∈ Gen.Effects.facts, allowed f = true := by
  -- `+kernel`: the list has a few hundred string rows; evaluation by the kernel avoids the elaborator's
  -- recursion limit (no axiom is involved, see the audit)
  have h : Gen.Effects.facts.all allowed = true := by decide +kernel
  exact fun f hf => List.all_eq_true.mp h f hf

-- diagnostic for the build log (kept in the replay file of a broken obligation): the facts outside the
-- allowed set; `[]` when `effects_allowed` holds
#eval Gen.Effects.facts.filter (fun f => !allowed f)

/-- the extraction is not vacuous: it walked the read-only API (a root per structure's serialiser) and a
    few hundred function bodies -/
theorem effects_nonvacuous :
    100 ≤ Gen.Effects.roots.length ∧ 100 ≤ Gen.Effects.analysed ∧ 20 ≤ Gen.Effects.facts.length := by
  decide +kernel

/-- what the allowed set rejects (each is the fact one of the classic regressions would produce) -/
example : allowed ("(*destination.Destination).Hash", "Store", "receiver", "Destination.hashCache") = false := by decide +kernel
example : allowed ("(*data.Mapping).Data", "sort", "receiver", "Mapping.vals") = false := by decide +kernel
example : allowed ("key_certificate.GetSigningKeySize", "MapUpdate", "global", "key_certificate.sizes") = false := by decide +kernel
example : allowed ("(*x.T).Bytes", "append", "receiver", "T.prefix") = false := by decide +kernel
example : allowed ("(*x.T).Bytes", "copy", "param", "other") = false := by decide +kernel
example : allowed ("(*x.T).Bytes", "extwrite", "receiver", "(encoding/binary.bigEndian).PutUint32") = false := by decide +kernel
example : allowed ("(*x.T).Bytes -> os.WriteFile", "external-call", "receiver", "std:os") = false := by decide +kernel
example : allowed ("(*x.T).Bytes -> example.org/x/y.F", "external-call", "global", "example.org/x/y") = false := by decide +kernel
example : allowed ("(*x.T).Bytes", "dynamic-call", "unknown", "(func value)") = false := by decide +kernel
example : allowed ("", "EXTRACTOR-FAILED", "unknown", "panic") = false := by decide +kernel

end I2P.Props.C18
