import I2P.Proofs.TimeLemmas
/-! # C15 — expiry arithmetic is exact

Property theorems only.  The model functions are the code-mirroring definitions of `I2P/Time.lean` (one per Go
accessor/constructor, every `uint32`/`uint16`/`int64`/`uint64`/`time.Duration` operation an explicit wrap
function; tied to `/repo` by the correspondence run of `./check C15`).  The theorems say that for **every**
representable field value (32-bit seconds, 16-bit offsets, millisecond dates below `2^63`) the results are the
mathematically exact integers — no wrap function is ever active.  `now` is an arbitrary `time.Time`.

Clauses that are false of the faithful model are stated as counterexamples (`example`) next to the
`…_partial` theorem that excludes exactly the failing inputs:
* `NewLease` never rejects; a time before 1970 is stored as its two's complement (candidate D14).

`router_info.createPublishedDate` went through `UnixNano()` and stored a wrapped value for instants after
2262-04-11 (D11b, repaired in a5cda96; `data.DateFromTime` itself is exact since 18b9fe5): its clause is
stated at full strength, `published_date_exact`. -/

namespace I2P.Props.C15
open I2P.Time

/-! ### published time + expires offset -/

/-- LeaseSet2: `PublishedTime()` is the published second and `ExpirationTime()` is `published + expires`
    in ℤ (it may exceed `2^32 − 1`; nothing wraps), on a whole second. -/
theorem ls2_expiration_exact (p e : Nat) (hp : p < 2^32) (he : e < 2^16) :
    ls2ExpirationSeconds p e = (p : Int) + e ∧ (ls2ExpirationTime p e).nsec = 0 ∧ ls2PublishedSeconds p = p := by
  unfold ls2ExpirationSeconds ls2PublishedSeconds ls2ExpirationTime ls2PublishedTime unixOf
  rw [header_expiration p e hp he, unix32_time p hp]
  exact ⟨rfl, rfl, rfl⟩

/-- EncryptedLeaseSet: same arithmetic (`expires = 0` is refused by the reader and the constructor, the
    accessor is exact regardless). -/
theorem els_expiration_exact (p e : Nat) (hp : p < 2^32) (he : e < 2^16) :
    elsExpirationSeconds p e = (p : Int) + e ∧ (elsExpirationTime p e).nsec = 0 ∧ elsPublishedSeconds p = p :=
  ls2_expiration_exact p e hp he

/-- MetaLeaseSet: same arithmetic. -/
theorem meta_expiration_exact (p e : Nat) (hp : p < 2^32) (he : e < 2^16) :
    metaExpirationSeconds p e = (p : Int) + e ∧ (metaExpirationTime p e).nsec = 0 ∧ metaPublishedSeconds p = p :=
  ls2_expiration_exact p e hp he

/-- MetaLeaseSetEntry.ExpiresTime() is the stored second (no sign extension above `2^31`). -/
theorem entry_expires_exact (x : Nat) (hx : x < 2^32) :
    entryExpiresSeconds x = x ∧ (entryExpiresTime x).nsec = 0 := by
  unfold entryExpiresSeconds entryExpiresTime unixOf
  rw [unix32_time x hx]
  exact ⟨rfl, rfl⟩

example : ls2ExpirationSeconds (2^32 - 1) 65535 = 4295032830 := by decide
example : elsExpirationSeconds (2^31) 1 = 2147483649 := by decide
example : metaExpirationSeconds 0 0 = 0 := by decide
example : entryExpiresSeconds (2^31) = 2147483648 := by decide

/-! ### offline signature -/

/-- OfflineSignature: `ExpiresTime()` is the stored second, `ExpiresDate()` is eight bytes holding exactly
    `expires · 1000` milliseconds. -/
theorem offline_expires_exact (x : Nat) (hx : x < 2^32) :
    offlineExpiresSeconds x = x ∧ (offlineExpiresTime x).nsec = 0 ∧
      offlineExpiresDateMillis x = x * 1000 ∧ (offlineExpiresDate x).length = 8 := by
  unfold offlineExpiresSeconds offlineExpiresDateMillis offlineExpiresTime unixOf
  rw [unix32_time x hx, offlineExpiresDate_exact x hx]
  exact ⟨rfl, rfl, beVal_beEnc8 (by omega), beEnc_length 8 _⟩

example : offlineExpiresSeconds (2^32 - 1) = 4294967295 ∧ offlineExpiresDateMillis (2^32 - 1) = 4294967295000 := by decide

/-! ### Lease2 (32-bit seconds) -/

/-- `Lease2.Date()` is `end_date · 1000` (the multiplication is done after widening to 64 bits). -/
theorem lease2_date_exact (e : Nat) (he : e < 2^32) :
    lease2DateMillis e = e * 1000 ∧ beVal (lease2Date e) = e * 1000 ∧ (lease2Date e).length = 8 := by
  have h := lease2DateMillis_exact e he
  refine ⟨h, ?_, beEnc_length 8 _⟩
  unfold lease2Date
  rw [h]
  exact beVal_beEnc8 (by omega)

/-- `Lease2.Time()` is the stored second. -/
theorem lease2_time_exact (e : Nat) (he : e < 2^32) : lease2TimeSeconds e = e ∧ (lease2Time e).nsec = 0 := by
  unfold lease2TimeSeconds lease2Time unixOf
  rw [unix32_time e he]
  exact ⟨rfl, rfl⟩

/-- `NewLease2` accepts exactly the second counts `0 … 2^32 − 1` and stores them unchanged; every other
    `int64` second count is rejected (nothing is stored wrapped). -/
theorem newLease2_domain (s : Int) (hs : IsInt64 s) :
    (newLease2 s = some s.toNat ↔ 0 ≤ s ∧ s < 2^32) ∧ (¬ (0 ≤ s ∧ s < 2^32) → newLease2 s = none) := by
  rw [newLease2_eq (show s < 2^64 by have := hs.2; omega)]
  by_cases h : 0 ≤ s ∧ s < 2^32
  · rw [if_pos h]
    exact ⟨⟨fun _ => h, fun _ => rfl⟩, fun hn => absurd h hn⟩
  · rw [if_neg h]
    exact ⟨⟨nofun, fun h' => absurd h' h⟩, fun _ => rfl⟩

/-- the same on the `time.Time` argument: whatever the nanoseconds, only the second count decides -/
theorem newLease2_time_domain (t : GoTime) (hs : IsInt64 t.sec) :
    (newLease2FromTime t = some t.sec.toNat ↔ 0 ≤ t.sec ∧ t.sec < 2^32) ∧
      (¬ (0 ≤ t.sec ∧ t.sec < 2^32) → newLease2FromTime t = none) :=
  newLease2_domain t.sec hs

example : newLease2 (2^32 - 1) = some 4294967295 ∧ newLease2 0 = some 0 := by decide
example : newLease2 (-1) = none ∧ newLease2 (2^32) = none ∧ newLease2 (2^63 - 1) = none ∧ newLease2 (-2^63) = none := by decide

/-! ### Lease (64-bit milliseconds) -/

/-- Millisecond → time conversions of a stored date below `2^63`: `Lease.Time()`, `Date.Int()` and
    `Date.Time()` all denote exactly `date` milliseconds (`⌊date/1000⌋` seconds). -/
theorem lease_time_exact (d : Nat) (hd : d < 2^63) :
    leaseTimeMillis d = d ∧ (leaseTime d).sec = (d / 1000 : Nat) ∧ dateIntOf d = d ∧ (dateTimeOf d).unixMilli = d := by
  refine ⟨?_, ?_, toInt64_of_lt hd, ?_⟩
  · unfold leaseTimeMillis; rw [leaseTime_small d hd, unixMilli_ofMillis hd]
  · rw [leaseTime_small d hd]
  · rw [dateTimeOf_small d hd, unixMilli_ofMillis hd]

/-- `NewLease` stores exactly the millisecond count of its argument — **for times from 1970 on** whose
    millisecond count is below `2^63`.  Partial: the constructor has no range check, see the counterexample. -/
theorem newLease_exact_partial (t : GoTime) (h0 : 0 ≤ t.sec) (h63 : t.sec * 1000 + t.nsec / 1000000 < 2^63) :
    (newLeaseDate t : Int) = t.sec * 1000 + ((t.nsec / 1000000 : Nat) : Int) ∧
      leaseTimeMillis (newLeaseDate t) = t.sec * 1000 + ((t.nsec / 1000000 : Nat) : Int) := by
  have hd : (newLeaseDate t : Int) = t.sec * 1000 + ((t.nsec / 1000000 : Nat) : Int) := by
    rw [newLeaseDate, wrapUInt64, unixMilli_exact t (by omega) h63, toUInt64_of_nonneg (by omega) (by omega)]
  exact ⟨hd, by rw [(lease_time_exact _ (by omega)).1, hd]⟩

/-- Counterexample (D14): one second before 1970 is stored as `2^64 − 1000`, and `Lease.Time()` of that
    lease is again −1000 ms; a date of `2^64 − 1000` ms is what goes on the wire. -/
example : newLeaseDate (timeUnix (-1) 0) = 2^64 - 1000 ∧ leaseTimeMillis (2^64 - 1000) = -1000 := by decide

example : newLeaseDate (timeUnix 4294967296 999000000) = 4294967296999 := by decide

/-! ### newest / oldest expiration of a LeaseSet -/

/-- For 1 or more leases (the wire format allows at most 16, the statement needs no upper bound) with dates
    below `2^63`, `NewestExpiration()` and `OldestExpiration()` succeed, return the date of one of the leases,
    and bound all the others. -/
theorem newest_oldest (ds : List Nat) (hlen : 1 ≤ ds.length) (hds : ∀ d ∈ ds, d < 2^63) :
    ∃ n o, newestExpiration ds = some n ∧ oldestExpiration ds = some o ∧ n ∈ ds ∧ o ∈ ds ∧
      ∀ d ∈ ds, o ≤ d ∧ d ≤ n := by
  match ds, hlen, hds with
  | x :: xs, _, hds =>
    obtain ⟨hn, hle⟩ := newest_loop xs x hds
    obtain ⟨ho, hge⟩ := oldest_loop xs x hds
    exact ⟨_, _, rfl, rfl, hn, ho, fun d hd => ⟨hge d hd, hle d hd⟩⟩

/-- no leases: both report `ErrNoLeases` -/
theorem newest_oldest_empty : newestExpiration [] = none ∧ oldestExpiration [] = none := ⟨rfl, rfl⟩

example : newestExpiration [5, 2^63 - 1, 0, 1999, 1001] = some (2^63 - 1) ∧
    oldestExpiration [5, 2^63 - 1, 0, 1999, 1001] = some 0 := by decide
example : newestExpiration [1000, 1999, 1001] = some 1999 ∧ oldestExpiration [1999, 1000, 1001] = some 1000 := by decide

/-! ### a day in the past is expired, a day in the future is not -/

theorem ls2_isExpired_day (now : GoTime) (p e : Nat) (hp : p < 2^32) (he : e < 2^16) :
    ((p : Int) + e ≤ now.sec - 86400 → ls2IsExpired now p e = true) ∧
      ((p : Int) + e ≥ now.sec + 86400 → ls2IsExpired now p e = false) := by
  unfold ls2IsExpired ls2ExpirationTime ls2PublishedTime
  rw [header_expiration p e hp he]
  exact timeAfter_day now _ _

theorem els_isExpired_day (now : GoTime) (p e : Nat) (hp : p < 2^32) (he : e < 2^16) :
    ((p : Int) + e ≤ now.sec - 86400 → elsIsExpired now p e = true) ∧
      ((p : Int) + e ≥ now.sec + 86400 → elsIsExpired now p e = false) :=
  ls2_isExpired_day now p e hp he

theorem meta_isExpired_day (now : GoTime) (p e : Nat) (hp : p < 2^32) (he : e < 2^16) :
    ((p : Int) + e ≤ now.sec - 86400 → metaIsExpired now p e = true) ∧
      ((p : Int) + e ≥ now.sec + 86400 → metaIsExpired now p e = false) :=
  ls2_isExpired_day now p e hp he

theorem entry_isExpired_day (now : GoTime) (x : Nat) (hx : x < 2^32) :
    ((x : Int) ≤ now.sec - 86400 → entryIsExpired now x = true) ∧
      ((x : Int) ≥ now.sec + 86400 → entryIsExpired now x = false) := by
  unfold entryIsExpired entryExpiresTime
  rw [unix32_time x hx]
  exact timeAfter_day now _ _

theorem offline_isExpired_day (now : GoTime) (x : Nat) (hx : x < 2^32) :
    ((x : Int) ≤ now.sec - 86400 → offlineIsExpired now x = true) ∧
      ((x : Int) ≥ now.sec + 86400 → offlineIsExpired now x = false) :=
  entry_isExpired_day now x hx

theorem lease2_isExpired_day (now : GoTime) (x : Nat) (hx : x < 2^32) :
    ((x : Int) ≤ now.sec - 86400 → lease2IsExpired now x = true) ∧
      ((x : Int) ≥ now.sec + 86400 → lease2IsExpired now x = false) := by
  unfold lease2IsExpired lease2Time
  rw [unix32_time x hx, timeBefore_eq_timeAfter]
  exact timeAfter_day now _ _

/-- Lease: the end date is in milliseconds; a day is 86 400 000 ms. -/
theorem lease_isExpired_day (now : GoTime) (d : Nat) (hd : d < 2^63) :
    ((d : Int) ≤ (now.sec - 86400) * 1000 → leaseIsExpired now d = true) ∧
      ((d : Int) ≥ (now.sec + 86400) * 1000 → leaseIsExpired now d = false) := by
  unfold leaseIsExpired
  rw [leaseTime_small d hd, timeBefore_eq_timeAfter]
  exact ⟨fun h => timeAfter_of_sec_lt (by simp only; omega), fun h => timeAfter_of_sec_gt (by simp only; omega)⟩

/-- all seven `IsExpired` methods at once, for an expiry in whole seconds `x` (for the three lease sets the
    expiry is `published + expires`) -/
theorem isExpired_day (now : GoTime) (p e x : Nat) (hp : p < 2^32) (he : e < 2^16) (hx : x < 2^32)
    (hpe : p + e = x) :
    ((x : Int) ≤ now.sec - 86400 →
        ls2IsExpired now p e = true ∧ elsIsExpired now p e = true ∧ metaIsExpired now p e = true ∧
        entryIsExpired now x = true ∧ offlineIsExpired now x = true ∧ lease2IsExpired now x = true ∧
        leaseIsExpired now (x * 1000) = true) ∧
    ((x : Int) ≥ now.sec + 86400 →
        ls2IsExpired now p e = false ∧ elsIsExpired now p e = false ∧ metaIsExpired now p e = false ∧
        entryIsExpired now x = false ∧ offlineIsExpired now x = false ∧ lease2IsExpired now x = false ∧
        leaseIsExpired now (x * 1000) = false) := by
  have hc : (p : Int) + e = x := by omega
  have ls2 := ls2_isExpired_day now p e hp he
  have els := els_isExpired_day now p e hp he
  have mls := meta_isExpired_day now p e hp he
  rw [hc] at ls2 els mls
  have ent := entry_isExpired_day now x hx
  have off := offline_isExpired_day now x hx
  have l2 := lease2_isExpired_day now x hx
  have l := lease_isExpired_day now (x * 1000) (by omega)
  exact ⟨fun h => ⟨ls2.1 h, els.1 h, mls.1 h, ent.1 h, off.1 h, l2.1 h, l.1 (by omega)⟩,
    fun h => ⟨ls2.2 h, els.2 h, mls.2 h, ent.2 h, off.2 h, l2.2 h, l.2 (by omega)⟩⟩

example : ls2IsExpired ⟨1800000000, 5⟩ 1799913000 600 = true ∧ ls2IsExpired ⟨1800000000, 5⟩ 1800086400 0 = false := by decide
example : offlineIsExpired ⟨1800000000, 0⟩ 1800000000 = false ∧ offlineIsExpired ⟨1800000000, 1⟩ 1800000000 = true := by decide

/-! ### published date of a new RouterInfo -/

/-- `createPublishedDate` stores the exact millisecond count for every instant from 1970 on whose
    millisecond count fits 63 bits. -/
theorem published_date_exact (t : GoTime) (h0 : 0 ≤ t.sec) (h63 : t.sec * 1000 + ((t.nsec / 1000000 : Nat) : Int) < 2^63) :
    (createPublishedDate t : Int) = t.sec * 1000 + ((t.nsec / 1000000 : Nat) : Int) :=
  (newLease_exact_partial t h0 (by omega)).1

/-- the instant at which the pre-fix code (through `UnixNano()`) first stored a wrapped value -/
example : createPublishedDate (timeUnix 9223372037 0) = 9223372037000 := by decide

example : createPublishedDate (timeUnix 1800000000 123456789) = 1800000000123 := by decide

end I2P.Props.C15
