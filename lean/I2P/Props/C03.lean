import I2P.Proofs.KacLemmas
import I2P.Props.C11
/-! # C03 — stream framing: consumed ++ remainder = input; appended bytes change nothing; no proper prefix parses

(a) is `Props/C01.lean`; here: (b) append-stability and (c) no accepted proper prefix,
per parser of the code-mirroring model. Composite structures are in `Props/C03S.lean`. -/
namespace I2P.Props.C03
open I2P.Kac
open I2P.Mapping

/-- ReadCertificate (b) -/
theorem certificate_append :
    ∀ {w : Bytes} {c : Cert} {r : Bytes},
      readCert w = some (c, r) →
        ∀ (x : Bytes),
          ∃ c',
            readCert (w ++ x) = some (c', r ++ x) ∧
              c'.bytes = c.bytes ∧ c'.kind = c.kind ∧ c'.len = c.len ∧ c'.data = c.data :=
  @I2P.Kac.readCert_append

/-- ReadCertificate (c) -/
theorem certificate_no_prefix :
    ∀ {w : Bytes} {c : Cert},
      readCert w = some (c, []) → ∀ (k : Nat), k < List.length w → readCert (List.take k w) = none :=
  no_prefix_of_typed_append readCert readCert_append

/-- NewKeyCertificate (b) -/
theorem key_certificate_append :
    ∀ {w : Bytes} {kc : KeyCert} {r : Bytes},
      newKeyCert w = some (kc, r) →
        ∀ (x : Bytes),
          ∃ kc',
            newKeyCert (w ++ x) = some (kc', r ++ x) ∧
              kc'.cert.bytes = kc.cert.bytes ∧
                kc'.cert.kind = kc.cert.kind ∧
                  kc'.cert.len = kc.cert.len ∧ kc'.cert.data = kc.cert.data ∧ kc'.spk = kc.spk ∧ kc'.cpk = kc.cpk :=
  @I2P.Kac.newKeyCert_append

/-- NewKeyCertificate (c) -/
theorem key_certificate_no_prefix :
    ∀ {w : Bytes} {kc : KeyCert},
      newKeyCert w = some (kc, []) → ∀ (k : Nat), k < List.length w → newKeyCert (List.take k w) = none :=
  no_prefix_of_typed_append newKeyCert newKeyCert_append

/-- ReadKeysAndCert (b) -/
theorem keys_and_cert_append :
    ∀ {w : Bytes} {k : KeysAndCert} {r : Bytes},
      readKac w = some (k, r) →
        ∀ (x : Bytes),
          ∃ k',
            readKac (w ++ x) = some (k', r ++ x) ∧
              k'.bytes = k.bytes ∧
                k'.pub = k.pub ∧ k'.padding = k.padding ∧ k'.sig = k.sig ∧ k'.kc.spk = k.kc.spk ∧ k'.kc.cpk = k.kc.cpk :=
  @I2P.Kac.readKac_append

/-- ReadKeysAndCert (c) -/
theorem keys_and_cert_no_prefix :
    ∀ {w : Bytes} {k : KeysAndCert},
      readKac w = some (k, []) → ∀ (n : Nat), n < List.length w → readKac (List.take n w) = none :=
  no_prefix_of_typed_append readKac readKac_append

/-- ReadKeysAndCertElgAndEd25519 (b) -/
theorem keys_and_cert_elg_append :
    ∀ {w : Bytes} {k : KeysAndCert} {r : Bytes},
      readKacFast 0 w = some (k, r) →
        ∀ (x : Bytes),
          ∃ k',
            readKacFast 0 (w ++ x) = some (k', r ++ x) ∧
              k'.bytes = k.bytes ∧
                k'.pub = k.pub ∧ k'.padding = k.padding ∧ k'.sig = k.sig ∧ k'.kc.spk = k.kc.spk ∧ k'.kc.cpk = k.kc.cpk :=
  (readKacFast_isSub (.inl rfl)).append

/-- ReadKeysAndCertElgAndEd25519 (c) -/
theorem keys_and_cert_elg_no_prefix :
    ∀ {w : Bytes} {k : KeysAndCert},
      readKacFast 0 w = some (k, []) → ∀ (n : Nat), n < List.length w → readKacFast 0 (List.take n w) = none :=
  (readKacFast_isSub (.inl rfl)).no_prefix

/-- ReadKeysAndCertX25519AndEd25519 (b) -/
theorem keys_and_cert_x25519_append :
    ∀ {w : Bytes} {k : KeysAndCert} {r : Bytes},
      readKacFast 4 w = some (k, r) →
        ∀ (x : Bytes),
          ∃ k',
            readKacFast 4 (w ++ x) = some (k', r ++ x) ∧
              k'.bytes = k.bytes ∧
                k'.pub = k.pub ∧ k'.padding = k.padding ∧ k'.sig = k.sig ∧ k'.kc.spk = k.kc.spk ∧ k'.kc.cpk = k.kc.cpk :=
  (readKacFast_isSub (.inr rfl)).append

/-- ReadKeysAndCertX25519AndEd25519 (c) -/
theorem keys_and_cert_x25519_no_prefix :
    ∀ {w : Bytes} {k : KeysAndCert},
      readKacFast 4 w = some (k, []) → ∀ (n : Nat), n < List.length w → readKacFast 4 (List.take n w) = none :=
  (readKacFast_isSub (.inr rfl)).no_prefix

/-- ReadDestination (b) -/
theorem destination_append :
    ∀ {w : Bytes} {k : KeysAndCert} {r : Bytes},
      readDestination w = some (k, r) →
        ∀ (x : Bytes),
          ∃ k',
            readDestination (w ++ x) = some (k', r ++ x) ∧
              k'.bytes = k.bytes ∧
                k'.pub = k.pub ∧ k'.padding = k.padding ∧ k'.sig = k.sig ∧ k'.kc.spk = k.kc.spk ∧ k'.kc.cpk = k.kc.cpk :=
  readDestination_isSub.append

/-- ReadDestination (c) -/
theorem destination_no_prefix :
    ∀ {w : Bytes} {k : KeysAndCert},
      readDestination w = some (k, []) → ∀ (n : Nat), n < List.length w → readDestination (List.take n w) = none :=
  readDestination_isSub.no_prefix

/-- ReadRouterIdentity (b) -/
theorem router_identity_append :
    ∀ {w : Bytes} {k : KeysAndCert} {r : Bytes},
      readRouterIdentity w = some (k, r) →
        ∀ (x : Bytes),
          ∃ k',
            readRouterIdentity (w ++ x) = some (k', r ++ x) ∧
              k'.bytes = k.bytes ∧
                k'.pub = k.pub ∧ k'.padding = k.padding ∧ k'.sig = k.sig ∧ k'.kc.spk = k.kc.spk ∧ k'.kc.cpk = k.kc.cpk :=
  readRouterIdentity_isSub.append

/-- ReadRouterIdentity (c) -/
theorem router_identity_no_prefix :
    ∀ {w : Bytes} {k : KeysAndCert},
      readRouterIdentity w = some (k, []) → ∀ (n : Nat), n < List.length w → readRouterIdentity (List.take n w) = none :=
  readRouterIdentity_isSub.no_prefix

/-- ReadMapping (b) -/
theorem mapping_append :
    ∀ (w : Bytes),
      accepted (readMapping w) = true →
        ∀ (x : Bytes),
          (readMapping (w ++ x)).vals = (readMapping w).vals ∧
            (readMapping (w ++ x)).rem = (readMapping w).rem ++ x ∧ accepted (readMapping (w ++ x)) = true :=
  C11.append_stable

/-- ReadMapping (a) -/
theorem mapping_suffix :
    ∀ (w : Bytes),
      accepted (readMapping w) = true → ∃ c, w = c ++ (readMapping w).rem ∧ data (readMapping w) = some c :=
  C11.reserialise_accepted

end I2P.Props.C03
