import I2P.Proofs.KacLemmas
/-! # C19 — alternative entry points for the same structure agree (model half)

Twin pairs that are *separately written code* in the library and therefore separately modelled. Pairs that
are thin wrappers of one another (pointer- vs value-returning readers, `New…FromBytes`) are covered by the
direct twin comparison on the real library in the harness (`sig` `twin:*`). -/
namespace I2P.Props.C19
open I2P.Kac

/-- generic reader accepts with the fast path's key types ⇒ the key-type-specific reader returns the same value and remainder -/
theorem fast_reader_of_generic :
    ∀ {c : Nat},
      c = 0 ∨ c = 4 →
        ∀ {w : Bytes} {k : KeysAndCert} {r : Bytes},
          readKac w = some (k, r) →
            (List.drop 384 w).head? = some 5 → k.kc.spk = 7 → k.kc.cpk = c → readKacFast c w = some (k, r) :=
  fun {_} hc {_ _ _} h h5 hs hcp => (readKacFast_iff hc).mpr ⟨h, h5, hs, hcp⟩

/-- the key-type-specific readers accept nothing the generic reader does not, and return the same value -/
theorem generic_of_fast_reader :
    ∀ {c : Nat},
      c = 0 ∨ c = 4 → ∀ {w : Bytes} {k : KeysAndCert} {r : Bytes}, readKacFast c w = some (k, r) → readKac w = some (k, r) :=
  fun {_} hc {_ _ _} h => ((readKacFast_iff hc).mp h).1

/-- NewKeyCertificate = KeyCertificateFromCertificate ∘ ReadCertificate -/
theorem key_certificate_from_bytes_vs_from_certificate :
    ∀ {w : Bytes} {c : Cert} {r : Bytes},
      readCert w = some (c, r) → newKeyCert w = Option.map (fun x => (x, r)) (keyCertFromCert c) :=
  fun h => by
    unfold newKeyCert keyCertFromCert
    rw [h]
    simp only [apply_ite (Option.map _), Option.map_none, Option.map_some]

/-- ReadDestination returns exactly what ReadKeysAndCert returns -/
theorem destination_wrapper_sub :
    ∀ {w : Bytes} {k : KeysAndCert} {r : Bytes},
      readDestination w = some (k, r) → readKac w = some (k, r) :=
  fun h => (readDestination_iff.mp h).1

/-- ReadRouterIdentity returns exactly what ReadKeysAndCert returns -/
theorem router_identity_wrapper_sub :
    ∀ {w : Bytes} {k : KeysAndCert} {r : Bytes},
      readRouterIdentity w = some (k, r) → readKac w = some (k, r) :=
  fun h => (readRouterIdentity_iff.mp h).1

end I2P.Props.C19
