import I2P.Proofs.DataLemmas
import I2P.Proofs.FixedLemmas
/-! # C12 — Integer, Date and String primitives are exact inverses within their domain

Property theorems only.  The model functions are the code-mirroring definitions of `I2P/Data.lean` and
`I2P/Fixed.lean` (tied to `/repo` by the correspondence run of `./check C12`).  Go's `int` is the range
`-2^63 ≤ v < 2^63`; that range is the explicit hypothesis `IsInt`. -/

namespace I2P.Props.C12

/-- the values a Go `int` can hold -/
def IsInt (v : Int) : Prop := -2^63 ≤ v ∧ v < 2^63

/-- the domain on which encoding must succeed -/
def Fits (v n : Int) : Prop := 1 ≤ n ∧ n ≤ 8 ∧ 0 ≤ v ∧ v < 256 ^ n.toNat

/-- Encoding succeeds exactly on the domain, yields exactly `n` big-endian bytes, and decoding returns
    the value (through `Int()`, `IntSafe()`, `UintSafe()` and `DecodeIntN`). -/
theorem int_roundtrip (v n : Int) (hv : IsInt v) (hf : Fits v n) :
    ∃ b, newIntegerFromInt v n = some b ∧ b.length = n.toNat ∧ beVal b = v.toNat ∧
      integerInt b = v ∧ integerIntSafe b = some v ∧ integerUintSafe b = some v.toNat ∧ decodeIntN b = some v := by
  have hnew := (newIntegerFromInt_eq hv.2).trans (if_pos hf)
  obtain ⟨h1, h8, h0, hlt⟩ := hf
  have hv' := Int.toNat_of_nonneg h0
  have hbv := beVal_beEnc n.toNat v.toNat ((castlt _ _).mp (by rwa [hv']))
  have hl := beEnc_length n.toNat v.toNat
  obtain ⟨d1, d2, d3, d4⟩ :=
    intDecoders_small (b := beEnc n.toNat v.toNat) (by omega) (by omega) (by have := hv.2; omega)
  rw [hbv] at d1 d2 d3 d4
  rw [hv'] at d1 d2 d4
  exact ⟨_, hnew, hl, hbv, d1, d2, d3, d4⟩

/-- Values that do not fit, negative values and sizes outside 1..8 are rejected. -/
theorem int_reject (v n : Int) (hv : IsInt v) (hf : ¬ Fits v n) : newIntegerFromInt v n = none :=
  (newIntegerFromInt_eq hv.2).trans (if_neg hf)

/-- The reader returns exactly the encoded bytes and the untouched rest of the stream. -/
theorem int_read_back (v n : Int) (hv : IsInt v) (hf : Fits v n) (x : Bytes) :
    ∃ b, newIntegerFromInt v n = some b ∧ readInteger (b ++ x) n = (some b, x) := by
  obtain ⟨b, hb, hl, _⟩ := int_roundtrip v n hv hf
  refine ⟨b, hb, ?_⟩
  unfold readInteger
  rw [if_neg (by have := hf.1; have := hf.2.1; omega), ← hl, if_neg (by simp), List.take_left, List.drop_left]

/-- A reader never returns a complete value for input shorter than the requested width. -/
theorem int_read_short (b : Bytes) (n : Int) (h : (b.length : Int) < n) :
    ∀ v, (readInteger b n).1 = some v → (v.length : Int) ≠ n := by
  intro v
  fun_cases readInteger b n
  · exact nofun
  · intro hv
    cases hv
    omega
  · omega

/-- The unsigned accessor returns the full 64-bit big-endian value for every 1..8-byte Integer
    (`beVal` is the mathematical big-endian value; it is `< 2^64` by `beVal_lt`). -/
theorem uint_full_range (b : Bytes) (h1 : 1 ≤ b.length) (h8 : b.length ≤ 8) :
    integerUintSafe b = some (beVal b) ∧ beVal b < 2^64 := by
  refine ⟨by unfold integerUintSafe; rw [if_neg (by omega)], ?_⟩
  have := beVal_lt_of_le h8
  rw [p8] at this; exact this

/-- Millisecond dates: every non-negative `int64` millisecond count is stored exactly in eight bytes;
    negative counts are rejected. -/
theorem date_roundtrip (ms : Int) (h0 : 0 ≤ ms) (h63 : ms < 2^63) :
    ∃ d, newDateFromMillis ms = some d ∧ d.length = 8 ∧ beVal d = ms.toNat ∧ dateInt d = ms := by
  obtain ⟨m, rfl⟩ := Int.eq_ofNat_of_zero_le h0
  have hm63 : m < 2^63 := by omega
  have hd := dateFromTime_eq (timeUnix_ofMillis m ▸ unixMilli_ofMillis hm63) (show m < 2^64 by omega)
  have hb : beVal (beEnc 8 m) = m := beVal_beEnc8 (by omega)
  refine ⟨beEnc 8 m, by rw [newDateFromMillis, if_neg (by omega), hd], beEnc_length 8 m, by rw [hb, Int.toNat_natCast], ?_⟩
  rw [dateInt, (intDecoders_small (b := beEnc 8 m) (by simp) (by simp) (by omega)).1, hb]

theorem date_reject (ms : Int) (h : ms < 0) : newDateFromMillis ms = none := by
  unfold newDateFromMillis; rw [if_pos h]

/-- The date reader returns the eight bytes written and the untouched rest. -/
theorem date_read_back (d x : Bytes) (h : d.length = 8) : readDate (d ++ x) = some (d, x) := by
  unfold readDate
  rw [if_neg (by simp [h]), ← h, List.take_left, List.drop_left]

/-- Length-prefixed strings up to 255 bytes round-trip, with the exact encoding `len :: content`. -/
theorem string_roundtrip (s x : Bytes) (h : s.length ≤ 255) :
    ∃ e, newStr s = some e ∧ e = UInt8.ofNat s.length :: s ∧
      readStr (e ++ x) = (e, x, none) ∧ strData e = s ∧ strDataOk e = true := by
  have hok := strDataOk_enc s h
  exact ⟨_, by rw [newStr, if_neg (by omega)], rfl, readStr_ok _ x hok, strData_enc s h, hok⟩

theorem string_reject (s : Bytes) (h : s.length > 255) : newStr s = none := by
  unfold newStr; rw [if_pos h]

/-- The string reader never reports success for input shorter than the declared length, and what it
    returns on success is exactly the length byte plus that many bytes, the rest being the remainder. -/
theorem string_read_sound (w s r : Bytes) (h : readStr w = (s, r, none)) :
    ∃ l rest, w = l :: rest ∧ l.toNat ≤ rest.length ∧ s = l :: rest.take l.toNat ∧ r = rest.drop l.toNat ∧ s ++ r = w := by
  obtain ⟨hs, rfl⟩ := readStr_none_iff.mp h
  obtain ⟨l, c, rfl, hl⟩ := strDataOk_iff.mp hs
  exact ⟨l, c ++ r, rfl, by rw [List.length_append]; omega, by rw [List.take_left' hl.symm],
    by rw [List.drop_left' hl.symm], rfl⟩

/-! ### the fixed-width helpers (`data/encoding.go`: EncodeUint16/32/64, EncodeInt16/32/64 and their decoders) -/

/-- `DecodeUintN(EncodeUintN(v)) = v` for every value of the width, in exactly `w` bytes, big-endian
    (`Fixed.encodeUint` is by definition the big-endian `beEnc`) -/
theorem fixed_unsigned_roundtrip (w v : Nat) (h : v < 256 ^ w) :
    (Fixed.encodeUint w v).length = w ∧ Fixed.decodeUint (Fixed.encodeUint w v) = v ∧ beVal (Fixed.encodeUint w v) = v :=
  ⟨Fixed.encodeUint_length w v, Fixed.decode_encodeUint w v h, Fixed.decode_encodeUint w v h⟩

/-- every `w`-byte array is the encoding of the value it decodes to (no two arrays decode alike) -/
theorem fixed_unsigned_decode_encode (b : Bytes) :
    Fixed.encodeUint b.length (Fixed.decodeUint b) = b ∧ Fixed.decodeUint b < 256 ^ b.length :=
  ⟨Fixed.encode_decodeUint b, Fixed.decodeUint_lt b⟩

/-- the signed helpers are exact inverses on the whole two's-complement range −2^(8w−1) … 2^(8w−1)−1 -/
theorem fixed_signed_roundtrip (w : Nat) (v : Int)
    (hlo : -((256 ^ w : Nat) : Int) ≤ 2 * v) (hhi : 2 * v < ((256 ^ w : Nat) : Int)) :
    (Fixed.encodeInt w v).length = w ∧ Fixed.decodeInt (Fixed.encodeInt w v) = v :=
  ⟨Fixed.encodeUint_length w _, Fixed.decode_encodeInt w v hlo hhi⟩

/-- … and in the other direction, with the decoded value inside that range -/
theorem fixed_signed_decode_encode (b : Bytes) :
    Fixed.encodeInt b.length (Fixed.decodeInt b) = b ∧
    -((256 ^ b.length : Nat) : Int) ≤ 2 * Fixed.decodeInt b ∧ 2 * Fixed.decodeInt b < ((256 ^ b.length : Nat) : Int) :=
  ⟨Fixed.encode_decodeInt b, Fixed.decodeInt_range b⟩

/-- non-vacuity and the documented examples of `data/encoding.go` -/
example : Fixed.encodeUint 2 1234 = [4, 210] ∧ Fixed.encodeUint 4 123456 = [0, 1, 226, 64] ∧
    Fixed.decodeInt [251, 46] = -1234 ∧ Fixed.decodeInt [255, 254, 29, 192] = -123456 ∧
    Fixed.decodeUint [0x80, 0, 0, 0, 0, 0, 0, 0] = 2 ^ 63 ∧ Fixed.encodeInt 8 (-1) = [255, 255, 255, 255, 255, 255, 255, 255] := by
  decide

end I2P.Props.C12
