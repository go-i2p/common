import I2P.Proofs.CheckedLemmas3LS
/-! # C04 (third part) — `lease_set.ReadLeaseSet` cannot panic

Property theorems only; the checked mirrors are in `I2P/Checked3LS.lean`, the helper lemmas in
`I2P/Proofs/CheckedLemmas3LS.lean`.

`readLeaseSetS` transcribes `ReadLeaseSet` and every helper it calls (`lease_set/utils.go`, plus
`KeyCertificateFromCertificate`, `NewSignatureFromBytes` and the two go-i2p/crypto key constructors) with
Go's run-time checks explicit.  `readLeaseSetC_refines` says that for EVERY input the mirror returns `.ok`,
accepts exactly the inputs the pure model `Structs.readLeaseSet` accepts, and that the parsed value
re-serialises (`LS.bytes`, i.e. `LeaseSet.Bytes()`) to exactly the bytes the pure model returns, with the same
unread remainder.  The pure model's `k.bytes = none` branch is dead: `Bytes()` of a parsed destination is
always `some` (`Kac.Parsed.bytes`), which is why the view below has `some q.1` on the model side. -/
namespace I2P.Props.C04
open I2P.Kac I2P.Structs I2P.Checked
attribute [local congr] Go.bind_congr

/-- `ReadLeaseSet` on a caller buffer (`cap = len`): never a panic; success exactly when the pure model
    succeeds; then `LeaseSet.Bytes()` succeeds and yields the pure model's bytes, and the bytes that
    `parseSignature` left unread are the pure model's remainder -/
theorem readLeaseSetC_refines (w : Bytes) :
    ∃ r, readLeaseSetC w = .ok r ∧
      r.map (fun p => (p.1.bytes, p.2)) = (readLeaseSet w).map (fun q => (some q.1, q.2)) := by
  obtain ⟨r, hr, hv, -⟩ := readLeaseSetS_spec (.ofBytes w)
  refine ⟨_, onBytes_ok hr, ?_⟩
  rw [Sl.ofBytes_data] at hv
  rw [← hv]; cases r <;> rfl

/-- the same in the shape of `readELSC_refines`: re-serialised bytes and unread remainder are the pure
    model's answer (weaker than `readLeaseSetC_refines`, which also says that `Bytes()` cannot fail) -/
theorem readLeaseSetC_refines' (w : Bytes) :
    ∃ r, readLeaseSetC w = .ok r ∧ r.bind (fun p => p.1.bytes.map (·, p.2)) = readLeaseSet w := by
  obtain ⟨r, hr, hv⟩ := readLeaseSetC_refines w
  refine ⟨r, hr, ?_⟩
  rcases refines_bytes_cases hv with ⟨rfl, hp⟩ | ⟨l, b, rem, rfl, hb, hp⟩ <;> rw [hp]
  · rfl
  · simp [hb]

theorem readLeaseSetC_no_panic (w : Bytes) : ∃ r, readLeaseSetC w = .ok r := by
  obtain ⟨r, h, -⟩ := readLeaseSetC_refines w; exact ⟨r, h⟩

/-- the same for an arbitrary Go slice (any underlying array, offset and capacity) -/
theorem readLeaseSetS_any_slice (s : Sl) :
    ∃ r, readLeaseSetS s = .ok r ∧
      r.map (fun p => (p.1.bytes, p.2.data)) = (readLeaseSet s.data).map (fun q => (some q.1, q.2)) := by
  obtain ⟨r, hr, hv, -⟩ := readLeaseSetS_spec s
  exact ⟨r, hr, hv⟩

/-- the helpers of `ReadLeaseSet` that take the parsed destination never panic and never fail on the
    certificate: for a destination that came out of `ReadDestination`, `KeyCertificateFromCertificate`
    returns the destination's own key certificate (KEY certificate) or an ordinary error (NULL certificate) -/
theorem keyCertificateFromCertificateC_parsed (d r : Bytes) (k : KeysAndCert) (hk : readDestination d = some (k, r)) :
    keyCertificateFromCertificateC (destCertificateC (some k)) =
      .ok (if k.kc.cert.type = 5 then some k.kc else none) :=
  (DestOK_of_readDestination hk).keyCert

/-! ### the lease loop

`extractLeases` is a structural recursion on a fuel argument (termination is by construction); the ghost
counter `n` in its result is the number of loop bodies executed. -/

/-- lease loop, for arbitrary arguments: at most `fuel` iterations, never past `leaseCount`; every iteration
    reads the next 44-byte window `data[i*44:(i+1)*44]`, which lies inside the capacity, and appends exactly
    one 44-byte lease -/
theorem ls_lease_loop_bounds (fuel : Nat) (i leaseCount : Int) (ls : List Bytes) (s : Sl) (ls' : List Bytes) (n : Nat)
    (h : lsExtractLeasesLoopC fuel i leaseCount ls s = .ok (ls', n)) :
    n ≤ fuel ∧ (n = 0 ∨ (0 ≤ i ∧ i + n ≤ leaseCount ∧ (i + n) * 44 ≤ s.cap)) ∧
      ∃ xs : List Bytes, ls' = ls ++ xs ∧ xs.length = n ∧ ∀ x ∈ xs, x.length = 44 := by
  induction fuel generalizing i ls ls' n with
  | zero => cases h; exact ⟨Nat.le_refl 0, .inl rfl, [], by simp, rfl, by simp⟩
  | succ fuel ih =>
    unfold lsExtractLeasesLoopC at h
    by_cases hc : i < leaseCount
    case neg => simp only [hc, go] at h; cases h; exact ⟨Nat.zero_le _, .inl rfl, [], by simp, rfl, by simp⟩
    simp only [hc, go, mk_eq (n := 44) (by decide), bind_eq_ok] at h
    obtain ⟨src, hs, ⟨l2, n2⟩, hq, h⟩ := h
    cases h
    -- the window was cut without a panic, so it lies inside the capacity
    obtain ⟨b0, -, b2, -⟩ := slice_ok_inv hs
    obtain ⟨c1, c2, xs, rfl, c4, c5⟩ := ih _ _ _ _ hq
    exact ⟨Nat.succ_le_succ c1, .inr (by omega), (copy (Sl.zeros 44) src).data :: xs, by simp, by simp [c4],
      List.forall_mem_cons.mpr ⟨by simp, c5⟩⟩

/-- under the guard `parseLeases` establishes (`leaseCount*44 ≤ len(data)`), `extractLeases` cannot panic and
    runs its body exactly `leaseCount` times -/
theorem lsExtractLeasesC_iterations (s : Sl) (leaseCount : Nat) (h : leaseCount * 44 ≤ s.len) :
    ∃ ls, lsExtractLeasesC s leaseCount = .ok (ls, leaseCount) ∧ ls.length = leaseCount ∧
      ∀ j, j < leaseCount → ls[j]? = some ((s.data.drop (44 * j)).take 44) := by
  refine ⟨_, lsExtractLeasesC_eq s leaseCount h, chunks44_length _ _ _, fun j hj => ?_⟩
  rw [chunks44_getElem? _ hj, Nat.zero_add, Nat.mul_comm]

/-- without that guard the slice expression `data[i*44:(i+1)*44]` does panic — the guard in `parseLeases`
    is what keeps the loop safe -/
example : lsExtractLeasesC (.ofBytes (List.replicate 87 0)) 2 = .error .sliceOOB := by rfl

/-- as `parseLeases` runs the loop: the number of leases read is the count byte, which is ≤ 16 ≤ 255; the
    loop body ran exactly that many times (ghost counter); lease `j` is the 44-byte window at offset
    `1 + 44·j`; exactly `1 + 44·count` bytes were consumed -/
theorem lsParseLeasesC_count (s : Sl) (count : Int) (leases : List Bytes) (rem : Sl)
    (h : lsParseLeasesC s = .ok (some (count, leases, rem))) :
    ∃ nl : UInt8, s.data.head? = some nl ∧ count = nl.toNat ∧ leases.length = nl.toNat ∧ nl.toNat ≤ 16 ∧
      nl.toNat ≤ 255 ∧ rem.len + 1 + 44 * nl.toNat = s.len ∧
      (∀ j, j < nl.toNat → leases[j]? = some ((s.data.drop (1 + 44 * j)).take 44)) ∧
      lsExtractLeasesC (s.adv 1) count = .ok (leases, nl.toNat) := by
  rw [lsParseLeasesC_eq, Except.ok.injEq] at h
  cases hd : s.data with
  | nil => rw [hd] at h; cases h
  | cons nl t =>
    rw [hd] at h
    simp only [Option.ite_none_left_eq_some, Option.some.injEq, Prod.mk.injEq] at h
    obtain ⟨hn, hs, rfl, rfl, rfl⟩ := h
    obtain ⟨hl, -, -, ht⟩ := head_drop hd
    have hx := lsExtractLeasesC_eq (s.drop 1) nl.toNat (by rw [Sl.drop_len, hl]; exact Nat.le_of_not_lt hs)
    rw [ht] at hx
    refine ⟨nl, rfl, rfl, chunks44_length _ _ _, Nat.le_of_not_lt hn, Nat.le_of_lt_succ nl.toNat_lt,
      by simp only [Sl.drop_len]; omega, fun j hj => ?_, ?_⟩
    · rw [chunks44_getElem? _ hj, Nat.zero_add, Nat.add_comm 1, List.drop_succ_cons, Nat.mul_comm]
    · rw [Sl.adv_eq (hl ▸ Nat.le_add_left 1 _)]; exact hx

/-- `parseLeases` never panics, on any slice -/
theorem lsParseLeasesC_no_panic (s : Sl) : ∃ r, lsParseLeasesC s = .ok r := ⟨_, lsParseLeasesC_eq s⟩

/-- a LeaseSet that `ReadLeaseSet` returns has `leaseCount ≤ 16` leases of 44 bytes each, a 256-byte encryption
    key, and the input splits exactly into destination, the fixed-size fields, `44·leaseCount` lease bytes, the
    signature and the unread remainder -/
theorem readLeaseSetS_shape (s : Sl) (l : LS) (rem : Sl) (h : readLeaseSetS s = .ok (some (l, rem))) :
    l.dest.isSome ∧ 0 ≤ l.leaseCount ∧ l.leaseCount ≤ 16 ∧ l.leases.length = l.leaseCount.toNat ∧
      (∀ x ∈ l.leases, x.length = 44) ∧ l.encryptionKey.length = 256 ∧
      ∃ destLen, 387 ≤ destLen ∧
        rem.len + l.signature.length + 44 * l.leases.length + 1 + l.signingKey.length + 256 + destLen = s.len := by
  obtain ⟨r, hr, -, hs⟩ := readLeaseSetS_spec s
  rw [h] at hr
  cases hr
  exact hs

/-! ### non-vacuity -/

/-- a complete legacy LeaseSet (KEY certificate, one lease) is accepted and re-serialises to itself -/
example : (readLeaseSetC exLS).toOption.bind (fun r => r.map (fun p => (p.1.bytes, p.2, p.1.leases.length))) =
    some (some exLS, [], 1) := by decide +kernel

/-- a legacy LeaseSet of a NULL-certificate destination (128-byte DSA revocation key, 40-byte signature) with two
    leases and two trailing bytes: accepted, `Bytes()` is the input without the trailing bytes -/
def exLSNull : Bytes :=
  List.replicate 384 1 ++ [0, 0, 0] ++ List.replicate 256 1 ++ List.replicate 128 2 ++ [2] ++ List.replicate 88 5 ++
    List.replicate 40 3 ++ [9, 9]

example : (readLeaseSetC exLSNull).toOption.bind (fun r => r.map (fun p => (p.1.bytes, p.2, p.1.leases.length))) =
    some (some (exLSNull.take 900), [9, 9], 2) := by decide +kernel

/-- … and the pure model agrees -/
example : readLeaseSet exLSNull = some (exLSNull.take 900, [9, 9]) := by decide +kernel

end I2P.Props.C04
