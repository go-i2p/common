import I2P.Proofs.KacLemmas
import I2P.Props.C11
/-! # C01 — re-serialising any accepted wire input reproduces the consumed bytes exactly

One theorem per parser of the code-mirroring model: accepted ⇒ serialisation ++ remainder = input.
The composite structures (LeaseSet2, …) are in `Props/C01S.lean`. -/
namespace I2P.Props.C01
open I2P.Kac
open I2P.Mapping

/-- ReadCertificate: `Bytes()` followed by the remainder is the input -/
theorem certificate :
    ∀ {w : Bytes} {c : Cert} {r : Bytes}, readCert w = some (c, r) → c.bytes ++ r = w :=
  @I2P.Kac.readCert_consumed

/-- NewKeyCertificate -/
theorem key_certificate :
    ∀ {w : Bytes} {kc : KeyCert} {r : Bytes}, newKeyCert w = some (kc, r) → kc.cert.bytes ++ r = w :=
  fun h => by
    obtain ⟨c, hc, _, _, rfl⟩ := newKeyCert_some.mp h
    exact readCert_consumed hc

/-- ReadKeysAndCert (KEY and NULL certificates, extra payload included) -/
theorem keys_and_cert :
    ∀ {w : Bytes} {k : KeysAndCert} {r : Bytes},
      readKac w = some (k, r) → ∃ b, k.bytes = some b ∧ b ++ r = w :=
  @I2P.Kac.readKac_consumed

/-- ReadKeysAndCertElgAndEd25519 -/
theorem keys_and_cert_elg_ed25519 :
    ∀ {w : Bytes} {k : KeysAndCert} {r : Bytes},
      readKacFast 0 w = some (k, r) → ∃ b, k.bytes = some b ∧ b ++ r = w :=
  (readKacFast_isSub (.inl rfl)).consumed

/-- ReadKeysAndCertX25519AndEd25519 -/
theorem keys_and_cert_x25519_ed25519 :
    ∀ {w : Bytes} {k : KeysAndCert} {r : Bytes},
      readKacFast 4 w = some (k, r) → ∃ b, k.bytes = some b ∧ b ++ r = w :=
  (readKacFast_isSub (.inr rfl)).consumed

/-- ReadDestination -/
theorem destination :
    ∀ {w : Bytes} {k : KeysAndCert} {r : Bytes},
      readDestination w = some (k, r) → ∃ b, k.bytes = some b ∧ b ++ r = w :=
  readDestination_isSub.consumed

/-- ReadRouterIdentity -/
theorem router_identity :
    ∀ {w : Bytes} {k : KeysAndCert} {r : Bytes},
      readRouterIdentity w = some (k, r) → ∃ b, k.bytes = some b ∧ b ++ r = w :=
  readRouterIdentity_isSub.consumed

/-- ReadMapping: accepted (no error other than the trailing-data warning) ⇒ `Data()` is exactly the consumed prefix -/
theorem mapping :
    ∀ (w : Bytes),
      accepted (readMapping w) = true → ∃ c, w = c ++ (readMapping w).rem ∧ data (readMapping w) = some c :=
  C11.reserialise_accepted

end I2P.Props.C01
