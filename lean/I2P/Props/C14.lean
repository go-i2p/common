import I2P.Proofs.CtorLemmas
import I2P.Proofs.TableLemmas
/-! # C14 — constructor success ⇒ Validate success ⇒ clean wire round trip; documented defects rejected by both

Rule-level theorems over the shape model of `I2P/Ctor.lean` (one Boolean conjunct per Go check; the
differential oracles of suite C14 in `harness/ops_ctor.go` run the same questions against the real library).

Naming: `ctor_implies_validate_<S>` is the first sentence of the property for structure `S`,
`validate_implies_parses_<S>` the second, `defect_<δ>_<S>` the converse for one documented defect class.
A theorem that needs a hypothesis beyond the property sentence is called `…_partial`; the hypothesis excludes
exactly one known finding of `known_findings.json` (D15, D16b, D21a, D24, D28-C14, D35, D36), and an `example`
next to it exhibits the excluded shape as a genuine counterexample (decided by evaluation).  The findings
D13, D16a, D20, D21b, D22, D23, D33 are repaired in /repo; their theorems are stated at full strength. -/

namespace I2P.Props.C14
open I2P.Spec I2P.Ctor

theorem sigConstructible_size (t : Nat) (h : Kac.sigConstructible t = true) :
    0 < sigPubSize t ∧ sigPubSize t ≤ 128 :=
  Kac.sigPubSize_of_constructible h

theorem cryptoConstructible_size (t : Nat) (h : Kac.cryptoConstructible t = true) : 0 < cryptoSize t := by
  have := Kac.cryptoSize_of_constructible h
  omega

/-! ## KeysAndCert -/

/-- D15 excluded by hypothesis: both keys are present. -/
theorem ctor_implies_validate_KeysAndCert_partial (a : KacShape) (h : kacCtorAccepts a = true)
    (hc : a.cryptoKeyLen.isSome = true) (hs : a.signingKeyLen.isSome = true) : kacValidates a = true := by
  obtain ⟨cn, st, ct, ck, sk, pl⟩ := a
  cases ck with
  | none => simp at hc
  | some c =>
    cases sk with
    | none => simp at hs
    | some s =>
      simp [kacCtorAccepts, keyLenOk] at h
      simp [kacValidates, h]

/-- D15: `NewKeysAndCert(cert, nil, padding, nil)` is accepted, `Validate` refuses the result. -/
example : kacCtorAccepts { sigType := 7, cryptoType := 4, cryptoKeyLen := none, signingKeyLen := none, paddingLen := 320 } = true
    ∧ kacValidates { sigType := 7, cryptoType := 4, cryptoKeyLen := none, signingKeyLen := none, paddingLen := 320 } = false := by
  decide

/-- Second sentence for KeysAndCert. D16b excluded by hypothesis: the declared key types are ones the parser can construct. -/
theorem validate_implies_parses_KeysAndCert_partial (a : KacShape) (_hv : kacValidates a = true)
    (hc : Kac.cryptoConstructible a.cryptoType = true) (hs : Kac.sigConstructible a.sigType = true) :
    kacParses a = true := by
  have := sigConstructible_size a.sigType hs
  simp [kacParses, hc, hs, this.1, this.2]

/-- D16b: Ed25519 with a P-256 crypto key: constructor and Validate accept, the parser cannot build the key. -/
example : let a : KacShape := { sigType := 7, cryptoType := 1, cryptoKeyLen := some 64, signingKeyLen := some 32, paddingLen := 288 }
    kacCtorAccepts a = true ∧ kacValidates a = true ∧ kacParses a = false := by decide

/-- D16a (repaired, 4315d7c): key types of unknown size are rejected by constructor and validator alike. -/
theorem defect_unknown_key_type_KeysAndCert (a : KacShape) (h : cryptoSize a.cryptoType = 0 ∨ sigPubSize a.sigType = 0) :
    kacCtorAccepts a = false ∧ kacValidates a = false := by
  rcases h with h | h <;> simp [kacCtorAccepts, kacValidates, h]

/-- the parser's key types always leave room for the padding: what parses was constructible -/
theorem parser_types_fit (s c : Nat) (hc : Kac.cryptoConstructible c = true) (hs : Kac.sigConstructible s = true) :
    cryptoSize c + sigPubSize s ≤ 384 := by
  have := Kac.cryptoSize_of_constructible hc
  have := Kac.sigPubSize_of_constructible hs
  omega

/-- defect "nil certificate": rejected by both -/
theorem defect_nil_cert_KeysAndCert (a : KacShape) (h : a.certNil = true) :
    kacCtorAccepts a = false ∧ kacValidates a = false := by
  simp [kacCtorAccepts, kacValidates, h]

/-- defect "crypto key length ≠ size declared by the certificate" (known type, key present): rejected by both -/
theorem defect_crypto_keylen_KeysAndCert (a : KacShape) (n : Nat) (hk : a.cryptoKeyLen = some n)
    (hsz : cryptoSize a.cryptoType ≠ 0) (hne : n ≠ cryptoSize a.cryptoType) :
    kacCtorAccepts a = false ∧ kacValidates a = false := by
  simp [kacCtorAccepts, kacValidates, keyLenOk, hk, hne, hsz]

/-- defect "signing key length ≠ size declared by the certificate": rejected by both -/
theorem defect_signing_keylen_KeysAndCert (a : KacShape) (n : Nat) (hk : a.signingKeyLen = some n)
    (hsz : sigPubSize a.sigType ≠ 0) (hne : n ≠ sigPubSize a.sigType) :
    kacCtorAccepts a = false ∧ kacValidates a = false := by
  simp [kacCtorAccepts, kacValidates, keyLenOk, hk, hne, hsz]

/-! ## Destination / RouterIdentity -/

theorem ctor_implies_validate_Destination (k : Option KacShape) (h : destCtorAccepts k = true) :
    destValidates k = true := by
  cases k with
  | none => simp [destCtorAccepts] at h
  | some k => simp [destCtorAccepts] at h; simp [destValidates, h.1]

theorem validate_implies_parses_Destination_partial (k : KacShape) (h : destCtorAccepts (some k) = true)
    (hc : Kac.cryptoConstructible k.cryptoType = true) (hs : Kac.sigConstructible k.sigType = true) :
    destParses k = true := by
  simp [destCtorAccepts] at h
  simp [destParses, validate_implies_parses_KeysAndCert_partial k h.1 hc hs, h.2]

/-- D15 knock-on: `NewRouterIdentity` builds its KeysAndCert with `NewKeysAndCert`. -/
theorem ctor_implies_validate_RouterIdentity_partial (a : KacShape) (h : ridCtorAccepts a = true)
    (hc : a.cryptoKeyLen.isSome = true) (hs : a.signingKeyLen.isSome = true) : ridValidates (some a) = true := by
  simp [ridCtorAccepts] at h
  simp [ridValidates, destValidates, ctor_implies_validate_KeysAndCert_partial a h.1 hc hs]

example : let a : KacShape := { sigType := 7, cryptoType := 4, cryptoKeyLen := some 32, signingKeyLen := none, paddingLen := 320 }
    ridCtorAccepts a = true ∧ ridValidates (some a) = false := by decide

theorem ctor_implies_validate_RouterIdentityFromKeysAndCert (k : Option KacShape)
    (h : ridFromKacCtorAccepts k = true) : ridValidates k = true := by
  cases k with
  | none => simp [ridFromKacCtorAccepts] at h
  | some k => simp [ridFromKacCtorAccepts] at h; simp [ridValidates, destValidates, h.1]

/-- defect "prohibited key type": the constructors and the parsers reject; `Validate` documents
    initialisation only (recorded as an observation by the harness, not as a failure) -/
theorem defect_prohibited_type_ctor (k : KacShape) (hd : destAllowed k.sigType k.cryptoType = false) :
    destCtorAccepts (some k) = false ∧ destParses k = false := by
  simp [destCtorAccepts, destParses, hd]

/-! ## Mapping, RouterAddress -/

theorem ctor_implies_validate_Mapping (m : MapShape) (h : mapCtorAccepts m = true) : mapValidates m = true := by
  simp [mapCtorAccepts] at h
  simp [mapValidates, h.1]

/-- D28-C14 and D36 excluded by hypothesis. -/
theorem validate_implies_parses_Mapping_partial (m : MapShape) (_h : mapValidates m = true)
    (hp : m.pairs ≤ 1000) (hd : m.duplicateKeys = false) : mapParses m = true := by
  simp [mapParses, hp, hd]

/-- D28: 1001 pairs with empty values -/
example : let m : MapShape := { pairs := 1001, maxString := 5, bodyLen := 9009 }
    mapCtorAccepts m = true ∧ mapValidates m = true ∧ mapParses m = false := by decide

/-- D36: `ValuesToMapping [a=1, a=2]` -/
example : let m : MapShape := { pairs := 2, maxString := 1, bodyLen := 12, duplicateKeys := true }
    mapValidates m = true ∧ mapParses m = false := by decide

theorem defect_string_over_255_Mapping (m : MapShape) (h : 255 < m.maxString) :
    mapCtorAccepts m = false ∧ mapValidates m = false := by
  have : ¬ m.maxString ≤ 255 := by omega
  simp [mapCtorAccepts, mapValidates, this]

theorem ctor_implies_validate_RouterAddress (a : RaArgs) (h : raCtorAccepts a = true) :
    raValidates (raBuilt a) = true := by
  simp [raCtorAccepts] at h
  simp [raValidates, raBuilt, h.1.1, ctor_implies_validate_Mapping _ h.2]

theorem validate_implies_parses_RouterAddress_partial (a : RaArgs) (_h : raCtorAccepts a = true)
    (hp : a.options.pairs ≤ 1000) (hd : a.options.duplicateKeys = false) : raParses (raBuilt a) = true := by
  simp [raParses, raBuilt, mapParses, hp, hd]

theorem defect_empty_style_RouterAddress (a : RaArgs) (v : RaVal) (ha : a.styleLen = 0) (hv : v.styleLen = 0) :
    raCtorAccepts a = false ∧ raValidates v = false := by
  simp [raCtorAccepts, raValidates, ha, hv]

theorem defect_missing_field_RouterAddress (v : RaVal) (h : v.costNil = true ∨ v.dateNil = true ∨ v.optionsNil = true) :
    raValidates v = false := by
  rcases h with h | h | h <;> simp [raValidates, h]

/-! ## RouterInfo -/

/-- D21a excluded by hypothesis: at least one address. (D21b — the zero published date — is rejected by the
    constructor since 1683fe6.) -/
theorem ctor_implies_validate_RouterInfo_partial (a : RiArgs) (h : riCtor a = .ok)
    (hn : a.nAddresses ≠ 0) : riValidates (riBuilt a) = true := by
  obtain ⟨-, -, hp, -, hm, -, -, -, hid⟩ := (riCtor_ok_iff a).1 h
  simp [riValidates, riBuilt, hid, hp, hn, ctor_implies_validate_Mapping _ hm]

/-- D21a: zero addresses (a hidden router) -/
example : let a : RiArgs := { identity := some { sigType := 7, cryptoType := 4, cryptoKeyLen := some 32, signingKeyLen := some 32, paddingLen := 320 },
                               publishedZero := false, nAddresses := 0, options := { pairs := 0, maxString := 0, bodyLen := 0 } }
    riCtor a = .ok ∧ riValidates (riBuilt a) = false := by decide

/-- D21b (repaired, 1683fe6): a zero published date is rejected by the constructor and by `Validate`. -/
theorem defect_zero_published_RouterInfo (a : RiArgs) (v : RiVal) (ha : a.publishedZero = true) (hv : v.publishedZero = true) :
    riCtor a ≠ .ok ∧ riValidates v = false := by
  refine ⟨fun h => ?_, by simp [riValidates, hv]⟩
  simp [((riCtor_ok_iff a).1 h).2.2.1] at ha

/-- D20 (repaired, 6596339): `NewRouterInfo` never panics; a nil identity or nil address element is an error. -/
theorem ctor_no_panic_RouterInfo (a : RiArgs) : riCtor a ≠ .panic := riCtor_ne_panic a

theorem defect_nil_identity_RouterInfo (a : RiArgs) (h : a.identity = none ∨ a.someAddressNil = true) : riCtor a = .err := by
  rcases h with h | h <;> simp [riCtor, h]

/-- defect "more than 255 addresses": the size field is one byte -/
theorem defect_over_255_addresses_RouterInfo (a : RiArgs) (h : 255 < a.nAddresses) : riCtor a = .err := by
  refine Outcome.eq_err (fun hok => ?_) (riCtor_ne_panic a)
  have := ((riCtor_ok_iff a).1 hok).2.2.2.1
  simp only [fits1, decide_eq_true_eq] at this
  omega

/-! ## Lease / Lease2 -/

/-- D35 excluded by hypothesis: the gateway hash is not all zero. -/
theorem ctor_implies_validate_Lease_partial (a : LeaseArgs) (_h : leaseCtorAccepts a = true)
    (hg : a.gatewayZero = false) : leaseValidates a = true := by
  simp [leaseValidates, hg]

theorem ctor_implies_validate_Lease2_partial (a : LeaseArgs) (_h : lease2CtorAccepts a = true)
    (hg : a.gatewayZero = false) : leaseValidates a = true := by
  simp [leaseValidates, hg]

/-- D35 -/
example : leaseCtorAccepts { gatewayZero := true } = true ∧ lease2CtorAccepts { gatewayZero := true } = true
    ∧ leaseValidates { gatewayZero := true } = false := by decide

theorem validate_implies_parses_Lease (a : LeaseArgs) (_h : leaseValidates a = true) : leaseParses a = true := rfl

/-! ## LeaseSet -/

theorem ctor_implies_validate_LeaseSet (a : LsArgs) (h : lsCtor a = .ok) : lsValidates (lsBuilt a) = true := by
  obtain ⟨-, -, he, hel, hn, hs, -, hp, h0⟩ := (lsCtor_ok_iff a).1 h
  simp [lsValidates, lsBuilt, he, hs, hel, hn, hp, h0]

/-- Second sentence for LeaseSet, at full strength since 186a243 (D22): `Validate` applies the parser's
    ElGamal range; the DSA range of a NULL-certificate revocation key is part of being obtainable. -/
theorem validate_implies_parses_LeaseSet (v : LsVal) (h : lsValidates v = true) (ho : lsObtainable v = true) :
    lsParses v = true := by
  simp only [lsValidates, Bool.and_eq_true] at h
  simp only [lsObtainable] at ho
  simp only [lsParses, Bool.and_eq_true]
  exact ⟨⟨h.1.1.1.1.1, h.1.1.2⟩, ho⟩

/-- every value `NewLeaseSet` returns is obtainable in that sense, hence parses back -/
theorem ctor_implies_parses_LeaseSet (a : LsArgs) (h : lsCtor a = .ok) : lsParses (lsBuilt a) = true := by
  apply validate_implies_parses_LeaseSet _ (ctor_implies_validate_LeaseSet a h)
  have hr := ((lsCtor_ok_iff a).1 h).2.2.2.2.2.2.1
  cases hk : a.keyCert <;> simp_all [lsObtainable, lsBuilt]

/-- D22 (repaired): a key value outside the parser's range is rejected by constructor and validator. -/
theorem defect_elgamal_value_LeaseSet (a : LsArgs) (v : LsVal) (ha : a.elgInRange = false) (hv : v.elgInRange = false) :
    lsCtor a ≠ .ok ∧ lsValidates v = false := by
  refine ⟨fun h => ?_, by simp [lsValidates, hv]⟩
  simp [((lsCtor_ok_iff a).1 h).2.2.2.1] at ha

theorem defect_dsa_revocation_value_LeaseSet (a : LsArgs) (hk : a.keyCert = false) (ha : a.revKeyInRange = false) :
    lsCtor a ≠ .ok := fun h => by
  simp [((lsCtor_ok_iff a).1 h).2.2.2.2.2.2.1 hk] at ha

/-- D33 (repaired, ffaf3b9): `NewLeaseSet` never panics; nil keys are errors. -/
theorem ctor_no_panic_LeaseSet (a : LsArgs) : lsCtor a ≠ .panic := lsCtor_ne_panic a

theorem defect_nil_key_LeaseSet (a : LsArgs) (h : a.encKeyLen = none ∨ a.signingKeyLen = none ∨ a.privKeyNil = true) :
    lsCtor a = .err := by
  refine Outcome.eq_err (fun hok => ?_) (lsCtor_ne_panic a)
  obtain ⟨hp, -, he, -, -, hs, -⟩ := (lsCtor_ok_iff a).1 hok
  simp [he, hs, hp] at h

theorem defect_over_16_leases_LeaseSet (a : LsArgs) (h : 16 < a.nLeases) : lsCtor a ≠ .ok := fun hok => by
  have := ((lsCtor_ok_iff a).1 hok).2.2.2.2.1
  omega

theorem defect_encryption_keylen_LeaseSet (a : LsArgs) (e : Nat) (he : a.encKeyLen = some e) (hne : e ≠ 256) :
    lsCtor a ≠ .ok := fun hok => by
  have := ((lsCtor_ok_iff a).1 hok).2.2.1
  simp [he, hne] at this

/-! ## LeaseSet2 -/

/-- First sentence for LeaseSet2, at full strength since 43eefaf (D13): the constructor has the reserved-bit
    and key-size rules of `Validate`. -/
theorem ctor_implies_validate_LeaseSet2 (a : Ls2Args) (h : ls2CtorAccepts a = true) : ls2Validates a = true := by
  simp only [ls2CtorAccepts, Bool.and_eq_true] at h
  simp only [ls2Validates, Bool.and_eq_true]
  simp_all

/-- D13 (repaired): reserved flag bits and a key whose length is not the size of its known type are rejected
    by constructor and validator alike. -/
theorem defect_reserved_flags_LeaseSet2 (a : Ls2Args) (h : ls2Reserved a.flags = true) :
    ls2CtorAccepts a = false ∧ ls2Validates a = false := by
  simp [ls2CtorAccepts, ls2Validates, h]

theorem defect_keylen_vs_type_LeaseSet2 (a : Ls2Args) (k : EncKey) (n : Nat) (hk : k ∈ a.keys)
    (ht : cryptoInfo k.keyType = some n) (hne : k.keyLen ≠ n) :
    ls2CtorAccepts a = false ∧ ls2Validates a = false := by
  have h2 : a.keys.all encKeyValid = false := by
    rw [List.all_eq_false]; exact ⟨k, hk, by simp [encKeyValid, ht, hne]⟩
  simp [ls2CtorAccepts, ls2Validates, h2]

/-- D06 (repaired, c5dd9b4): a key object that cannot sign is an error, not a silent placeholder. -/
theorem defect_unsupported_key_LeaseSet2 (a : Ls2Args) (h : a.key = .unsupported) : ls2CtorAccepts a = false := by
  simp [ls2CtorAccepts, ls2SignatureOk, h]

theorem validate_implies_parses_LeaseSet2 (a : Ls2Args) (h : ls2Validates a = true) : ls2Parses a = true := by
  simp only [ls2Validates, Bool.and_eq_true] at h
  obtain ⟨⟨⟨⟨hcnt, _⟩, _⟩, _⟩, hl⟩ := h
  simp only [ls2Parses, Bool.and_eq_true]
  exact ⟨hcnt, hl⟩

theorem defect_offline_mismatch_LeaseSet2 (a : Ls2Args) (h : offlineFlag a.flags ≠ a.offlinePresent) :
    ls2CtorAccepts a = false ∧ ls2Validates a = false := by
  have : (offlineFlag a.flags == a.offlinePresent) = false := by simpa using h
  simp [ls2CtorAccepts, ls2Validates, this]

theorem defect_key_count_LeaseSet2 (a : Ls2Args) (h : a.keys.length = 0 ∨ 16 < a.keys.length) :
    ls2CtorAccepts a = false ∧ ls2Validates a = false := by
  have : (decide (1 ≤ a.keys.length) && decide (a.keys.length ≤ 16)) = false := by
    rcases h with h | h
    · simp [h]
    · have : ¬ a.keys.length ≤ 16 := by omega
      simp [this]
  simp [ls2CtorAccepts, ls2Validates, this]

theorem defect_keylen_vs_data_LeaseSet2 (a : Ls2Args) (k : EncKey) (hk : k ∈ a.keys) (hne : k.keyLen ≠ k.dataLen) :
    ls2CtorAccepts a = false ∧ ls2Validates a = false := by
  have h2 : a.keys.all encKeyValid = false := by
    rw [List.all_eq_false]; exact ⟨k, hk, by simp [encKeyValid, hne]⟩
  simp [ls2CtorAccepts, ls2Validates, h2]

theorem defect_over_16_leases_LeaseSet2 (a : Ls2Args) (h : 16 < a.nLeases) :
    ls2CtorAccepts a = false ∧ ls2Validates a = false := by
  have : ¬ a.nLeases ≤ 16 := by omega
  simp [ls2CtorAccepts, ls2Validates, this]

/-! ## EncryptedLeaseSet -/

theorem ctor_implies_validate_EncryptedLeaseSet (a : ElsArgs) (h : elsCtorAccepts a = true) :
    elsValidates (elsBuilt a) = true := by
  simp only [elsCtorAccepts, Bool.and_eq_true, decide_eq_true_eq] at h
  have : a.innerLen % 65536 = a.innerLen := Nat.mod_eq_of_lt (by omega)
  simp only [elsValidates, elsBuilt, Bool.and_eq_true, decide_eq_true_eq, this]
  simp_all

/-- Second sentence for EncryptedLeaseSet, at full strength since 9f2a61a (D23): `Validate` compares the
    length field with the data length as `int`. -/
theorem validate_implies_parses_EncryptedLeaseSet (v : ElsVal) (h : elsValidates v = true) : elsParses v = true := by
  simp only [elsValidates, Bool.and_eq_true] at h
  exact h.1.2

/-- D23 (repaired): inner data that the two-byte length field cannot describe is rejected by the constructor,
    and a value whose length field disagrees with its data (65 597 bytes, field 61) by the validator. -/
theorem defect_inner_over_65535_EncryptedLeaseSet (a : ElsArgs) (h : 65535 < a.innerLen) : elsCtorAccepts a = false := by
  have : ¬ a.innerLen ≤ 65535 := by omega
  simp [elsCtorAccepts, this]

/-- the value the pre-fix constructor produced for 65 597 bytes of inner data -/
def wrappedEls : ElsVal :=
  { sigType := 7, blindedKeyLen := 32, expires := 600, flags := 0, offlinePresent := false,
    innerLength := 61, dataLen := 65597, signatureOk := true }

example : elsValidates wrappedEls = false := by decide

theorem defect_zero_expires_EncryptedLeaseSet (a : ElsArgs) (v : ElsVal) (ha : a.expires = 0) (hv : v.expires = 0) :
    elsCtorAccepts a = false ∧ elsValidates v = false := by
  simp [elsCtorAccepts, elsValidates, ha, hv]

theorem defect_reserved_flags_EncryptedLeaseSet (a : ElsArgs) (v : ElsVal) (ha : elsReserved a.flags = true)
    (hv : elsReserved v.flags = true) : elsCtorAccepts a = false ∧ elsValidates v = false := by
  simp [elsCtorAccepts, elsValidates, ha, hv]

theorem defect_offline_mismatch_EncryptedLeaseSet (a : ElsArgs) (v : ElsVal)
    (ha : offlineFlag a.flags ≠ a.offlinePresent) (hv : offlineFlag v.flags ≠ v.offlinePresent) :
    elsCtorAccepts a = false ∧ elsValidates v = false := by
  have h1 : (offlineFlag a.flags == a.offlinePresent) = false := by simpa using ha
  have h2 : (offlineFlag v.flags == v.offlinePresent) = false := by simpa using hv
  simp [elsCtorAccepts, elsValidates, h1, h2]

theorem defect_short_inner_EncryptedLeaseSet (a : ElsArgs) (v : ElsVal) (ha : a.innerLen < 61) (hv : v.dataLen < 61) :
    elsCtorAccepts a = false ∧ elsValidates v = false := by
  have h1 : ¬ 61 ≤ a.innerLen := by omega
  have h2 : ¬ 61 ≤ v.dataLen := by omega
  simp [elsCtorAccepts, elsValidates, h1, h2]

theorem defect_unknown_sigtype_EncryptedLeaseSet (a : ElsArgs) (v : ElsVal) (ha : sigInfo a.sigType = none)
    (hv : sigInfo v.sigType = none) : elsCtorAccepts a = false ∧ elsValidates v = false := by
  simp [elsCtorAccepts, elsValidates, ha, hv]

theorem defect_blinded_keylen_EncryptedLeaseSet (a : ElsArgs) (v : ElsVal) (ha : a.blindedKeyLen ≠ sigPubSize a.sigType)
    (hv : v.blindedKeyLen ≠ sigPubSize v.sigType) : elsCtorAccepts a = false ∧ elsValidates v = false := by
  simp [elsCtorAccepts, elsValidates, ha, hv]

/-- defect "length-field mismatch" -/
theorem defect_inner_length_mismatch_EncryptedLeaseSet (v : ElsVal) (h : v.innerLength ≠ v.dataLen) :
    elsValidates v = false := by
  simp [elsValidates, h]

/-! ## OfflineSignature -/

/-- D24 excluded by hypothesis: a non-zero expiry. -/
theorem ctor_implies_validate_OfflineSignature_partial (a : OffArgs) (h : offCtorAccepts a = true)
    (he : a.expires ≠ 0) : offValidates a = true := by
  simp [offValidates, h, he]

/-- D24 -/
example : let a : OffArgs := { expires := 0, transientType := 7, transientKeyLen := 32, destType := 7, signatureLen := 64 }
    offCtorAccepts a = true ∧ offValidates a = false := by decide

/-- `CreateOfflineSignature` has the expiry rule itself: true in full. -/
theorem ctor_implies_validate_CreateOfflineSignature (e tt tk dt : Nat) (h : offCreateAccepts e tt tk dt = true) :
    offValidates { expires := e, transientType := tt, transientKeyLen := tk, destType := dt, signatureLen := 64 } = true := by
  simp only [offCreateAccepts, Bool.and_eq_true] at h
  obtain ⟨⟨h1, _⟩, h3⟩ := h
  simp only [offValidates, Bool.and_eq_true]
  exact ⟨h1, h3⟩

theorem validate_implies_parses_OfflineSignature (a : OffArgs) (h : offValidates a = true) : offParses a = true := by
  simp only [offValidates, offCtorAccepts, Bool.and_eq_true] at h
  obtain ⟨_, ⟨⟨⟨h1, _⟩, h3⟩, _⟩⟩ := h
  simp only [offParses, Bool.and_eq_true]
  exact ⟨h1, h3⟩

theorem defect_unknown_type_OfflineSignature (a : OffArgs) (h : sigPubSize a.transientType = 0 ∨ sigLen a.destType = 0) :
    offCtorAccepts a = false ∧ offValidates a = false := by
  rcases h with h | h <;> simp [offCtorAccepts, offValidates, h]

theorem defect_keylen_OfflineSignature (a : OffArgs) (h : a.transientKeyLen ≠ sigPubSize a.transientType) :
    offCtorAccepts a = false ∧ offValidates a = false := by
  simp [offCtorAccepts, offValidates, h]

theorem defect_siglen_OfflineSignature (a : OffArgs) (h : a.signatureLen ≠ sigLen a.destType) :
    offCtorAccepts a = false ∧ offValidates a = false := by
  simp [offCtorAccepts, offValidates, h]

/-! ## Signature, Certificate -/

theorem ctor_implies_validate_Signature (t len : Nat) (h : sigCtorAccepts t len = true) : sigValidates t len = true := h
theorem validate_implies_parses_Signature (t len : Nat) (h : sigValidates t len = true) : sigParses t len = true := h

theorem defect_length_Signature (t len : Nat) (h : len ≠ sigLen t) :
    sigCtorAccepts t len = false ∧ sigValidates t len = false := by
  simp [sigCtorAccepts, sigValidates, h]

theorem defect_unknown_type_Signature (t len : Nat) (h : sigInfo t = none) :
    sigCtorAccepts t len = false ∧ sigValidates t len = false := by
  simp [sigCtorAccepts, sigValidates, h]

theorem ctor_implies_validate_Certificate (t n : Nat) (_h : certCtorAccepts t n = true) : certValidates t n = true := rfl
theorem validate_implies_parses_Certificate (t n : Nat) (_h : certValidates t n = true) : certParses t n = true := rfl

theorem defect_unknown_type_Certificate (t n : Nat) (h : 5 < t) : certCtorAccepts t n = false := by
  have : ¬ t ≤ 5 := by omega
  simp [certCtorAccepts, this]

theorem defect_payload_Certificate (t n : Nat)
    (h : 65535 < n ∨ (t = 0 ∧ n ≠ 0) ∨ (t = 2 ∧ n ≠ 0) ∨ (t = 3 ∧ n ≠ 40 ∧ n ≠ 72)) : certCtorAccepts t n = false := by
  rcases h with h | ⟨rfl, h⟩ | ⟨rfl, h⟩ | ⟨rfl, h1, h2⟩
  · have : ¬ n ≤ 65535 := by omega
    simp [certCtorAccepts, this]
  · simp [certCtorAccepts, h]
  · simp [certCtorAccepts, h]
  · simp [certCtorAccepts, h1, h2]

/-- `Build` succeeds only on configurations the builder's `Validate` accepts. -/
theorem build_implies_validate_Builder (b : Builder) (h : builderBuilds b = true) : builderValidates b = true := by
  simp only [builderBuilds, Bool.and_eq_true] at h
  exact h.1.1

/-- defect "KEY builder without key types or payload": rejected by `Validate` and `Build` -/
theorem defect_key_without_types_Builder (b : Builder) (ht : b.certType = 5) (h1 : b.signingTypeSet = false)
    (h2 : b.cryptoTypeSet = false) (h3 : b.payloadSet = false) : builderValidates b = false ∧ builderBuilds b = false := by
  simp [builderBuilds, builderValidates, ht, h1, h2, h3]

/-- observation (not a failure): the builder's `Validate` does not know the payload rules of
    `NewCertificateWithType` — a NULL certificate with a payload passes `Validate` and fails `Build` -/
example : builderValidates { certType := 0, payloadSet := true, payloadLen := 1 } = true
    ∧ builderBuilds { certType := 0, payloadSet := true, payloadLen := 1 } = false := by decide

end I2P.Props.C14
