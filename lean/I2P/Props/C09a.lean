import I2P.Proofs.KacLemmas
/-! # C09 (model half) — prohibited key types never appear in a Destination or RouterIdentity -/
namespace I2P.Props.C09
open I2P.Kac
open I2P.Spec

/-- every Destination the reader returns satisfies the Destination policy -/
theorem destination_allowed :
    ∀ {w : Bytes} {k : KeysAndCert} {r : Bytes},
      readDestination w = some (k, r) → destAllowed k.kc.spk k.kc.cpk = true :=
  fun h => (readDestination_iff.mp h).2

/-- every RouterIdentity the reader returns satisfies the RouterIdentity policy -/
theorem router_identity_allowed :
    ∀ {w : Bytes} {k : KeysAndCert} {r : Bytes},
      readRouterIdentity w = some (k, r) → ridAllowed k.kc.spk k.kc.cpk = true :=
  fun h => (readRouterIdentity_iff.mp h).2

/-- justifies `RouterIdentity.AsDestination` -/
theorem rid_policy_implies_dest_policy :
    ∀ {s c : Nat}, ridAllowed s c = true → destAllowed s c = true :=
  fun {s c} h => by
    unfold ridAllowed at h; unfold destAllowed
    rw [Bool.and_eq_true, Bool.not_eq_true', Bool.not_eq_true'] at h ⊢
    -- the crypto sets coincide; a signing type prohibited in a Destination is prohibited in a RouterIdentity
    refine ⟨?_, h.2⟩
    fun_cases destProhibitedSig s <;> first | rfl | exact absurd h.1 (by decide)

/-- the restriction rejects nothing that is permitted: every KeysAndCert with permitted types is accepted as a Destination -/
theorem destination_not_over_rejected :
    ∀ {w : Bytes} {k : KeysAndCert} {r : Bytes},
      readKac w = some (k, r) → destAllowed k.kc.spk k.kc.cpk = true → readDestination w = some (k, r) :=
  fun h ha => readDestination_iff.mpr ⟨h, ha⟩

/-- the same for RouterIdentity -/
theorem router_identity_not_over_rejected :
    ∀ {w : Bytes} {k : KeysAndCert} {r : Bytes},
      readKac w = some (k, r) → ridAllowed k.kc.spk k.kc.cpk = true → readRouterIdentity w = some (k, r) :=
  fun h ha => readRouterIdentity_iff.mpr ⟨h, ha⟩

/-- every supported (signing, crypto) pair with keys of the table sizes parses, with exactly the encoded fields -/
theorem supported_pairs_parse :
    ∀ (s c : Nat),
      sigConstructible s = true →
        cryptoConstructible c = true →
          s < 65536 →
            c < 65536 →
              ∀ (ck pad sk extra x : Bytes),
                List.length ck = cryptoSize c →
                  List.length sk = sigPubSize s →
                    List.length pad = 384 - cryptoSize c - sigPubSize s →
                      List.length extra ≤ 65531 →
                        ∃ k,
                          readKac
                                (ck ++ pad ++ sk ++ [5] ++ beEnc 2 (4 + List.length extra) ++ beEnc 2 s ++ beEnc 2 c ++
                                    extra ++
                                  x) =
                              some (k, x) ∧
                            k.pub = ck ∧
                              k.padding = pad ∧
                                k.sig = sk ∧
                                  k.kc.spk = s ∧
                                    k.kc.cpk = c ∧
                                      k.bytes =
                                        some
                                          (ck ++ pad ++ sk ++ [5] ++ beEnc 2 (4 + List.length extra) ++ beEnc 2 s ++
                                              beEnc 2 c ++
                                            extra) :=
  fun s c hs hc _ _ ck pad sk extra x hck hsk hpad hex => by
    obtain ⟨k, hr, hb, h⟩ := readKac_accepts s c hs hc ck pad sk extra x hck hsk hpad hex
    have hl : (beEnc 2 s ++ (beEnc 2 c ++ extra)).length = 4 + extra.length := by
      simp only [List.length_append, beEnc_length]; omega
    rw [hl] at hr hb
    simp only [← List.append_assoc] at hr hb
    exact ⟨k, hr, h.1, h.2.1, h.2.2.1, h.2.2.2.1, h.2.2.2.2, hb⟩

end I2P.Props.C09
