import I2P.Proofs.FailShapeLemmas
import I2P.Verify
import I2P.Gen.Observed
import I2P.Props.C20
/-! # C20, failed-parse half — WHICH value a reader returns together with an error

`I2P/FailShape.lean` models, reader by reader, the value the Go code hands out when it reports an error, as
a *shape* (the nil-structure of the value, `Shape`) plus the bit "is the zero value of its type".  The op
`failShape` (suite C20P) compares that model with `reflect` dumps of what the real readers return, on every
truncation point / field-boundary cut / control-byte corruption of generated encodings.

What is proved here, per reader `R` with model `read_R` (existing reader model) and `stop_R` (new):
* `…_zero_on_error` (readers that return the zero value or a nil pointer on every error path):
  `read_R` rejects `w` → the observation is `⟨zero := true, zeroShape⟩`.  A value with `zero = true` *is*
  the zero value (`reflect.Value.IsZero`), which the exhaustive sweep of `Props/C20.lean` already called
  every method on: `failed_parse_half_of_zero_on_error_readers` states the two facts side by side.
* `…_failed_shapes` (readers that hand out partially populated values): `read_R` rejects `w` → the shape's
  *class* is in the explicit finite list `shapes_R`, and `zero = true` only with the zero shape.
  A class fixes the nil-structure; it leaves open the length of every byte string (`b*`) and plain slice
  (`[*]`), the dynamic key type under an interface (`i*`), and the multiplicity of an element class in an
  element list (see `Shape.cls`).
* `…_classes_swept` / `…_classes_exact`: `harness observe` built a value of **every** class of `shapes_R`
  *through the real reader* (truncated / corrupted encodings, fixed seed), called every exported
  argument-free method on it, and saw no class outside the list; `partial_values_safe`: none panicked;
  `partial_values_never_verify`: no verification reported success.

What this does NOT prove: that no method panics on *every* value of a class.  Method behaviour may depend on
field *contents* inside a class (byte values, lengths, key types, flag bits); the sweep calls the methods on
at most 64 witnesses per class, and only the differential exploration (suites STRUCT/KAC/C20P: the C20 oracle
runs on every failed parse) samples contents more widely.  Nor is a nil *pointer* result covered by any method
call: there is no value (the harness skips it, as a caller must).
-/
namespace I2P.Props.C20b
open I2P.Kac I2P.Structs I2P.FailShape I2P.FailShape.Shape

/-! ## readers that return the zero value / a nil pointer on every error path -/

/-- `certificate.ReadCertificate` -/
theorem readCertificate_zero_on_error (w : Bytes) (h : readCert w = none) : stopCert w = some ⟨true, .nil⟩ := by
  simp [stopCert, zstop, h]
/-- `key_certificate.NewKeyCertificate` -/
theorem newKeyCertificate_zero_on_error (w : Bytes) (h : newKeyCert w = none) : stopKeyCert w = some ⟨true, .nil⟩ := by
  simp [stopKeyCert, zstop, h]
/-- `keys_and_cert.ReadKeysAndCert` -/
theorem readKeysAndCert_zero_on_error (w : Bytes) (h : readKac w = none) : stopKac w = some ⟨true, .nil⟩ := by
  simp [stopKac, zstop, h]
/-- `destination.ReadDestination`: `Destination{}` -/
theorem readDestination_zero_on_error (w : Bytes) (h : readDestination w = none) : stopDest w = some ⟨true, dest0⟩ := by
  simp [stopDest, zstop, h]
/-- `destination.NewDestinationFromBytes` -/
theorem newDestinationFromBytes_zero_on_error (w : Bytes) (h : readDestination w = none) :
    stopNewDest w = some ⟨true, .nil⟩ := by
  simp [stopNewDest, zstop, h]
/-- `router_identity.ReadRouterIdentity` and `NewRouterIdentityFromBytes` -/
theorem readRouterIdentity_zero_on_error (w : Bytes) (h : readRouterIdentity w = none) :
    stopRid w = some ⟨true, .nil⟩ := by
  simp [stopRid, zstop, h]
/-- `signature.ReadSignature`: `Signature{}` -/
theorem readSignature_zero_on_error (w : Bytes) (t : Int) (h : readSigInt w t = none) : stopSig w t = some ⟨true, sig0⟩ := by
  simp [stopSig, zstop, h]
/-- `signature.NewSignature` -/
theorem newSignature_zero_on_error (w : Bytes) (t : Int) (h : readSigInt w t = none) : stopNewSig w t = some ⟨true, .nil⟩ := by
  simp [stopNewSig, zstop, h]
/-- `signature.NewSignatureFromBytes` -/
theorem newSignatureFromBytes_zero_on_error (w : Bytes) (t : Int) (h : newSigFromBytesOk w t = false) :
    stopSigFromBytes w t = some ⟨true, sig0⟩ := by
  simp [stopSigFromBytes, zstop, h]
/-- `lease.ReadLease` (n = 44), `lease.ReadLease2` (40), `session_key.ReadSessionKey` (32), `data.ReadDate` (8),
    `data.ReadHash` (32): the zero array -/
theorem readFixedArray_zero_on_error (n : Nat) (w : Bytes) (h : readFixedN n w = none) : stopArr n w = some ⟨true, .arr n⟩ := by
  simp [stopArr, zstop, h]
/-- `session_tag.ReadSessionTag` (n = 32) / `ReadECIESSessionTag` (8): the zero struct -/
theorem readSessionTag_zero_on_error (n : Nat) (w : Bytes) (h : readFixedN n w = none) :
    stopTag n w = some ⟨true, S [.arr n]⟩ := by
  simp [stopTag, zstop, h]
/-- `NewLeaseFromBytes`, `NewLease2FromBytes`, `NewSessionKey`, `NewSessionTag`, `NewECIESSessionTag`, `NewDate` -/
theorem newFixedPointer_zero_on_error (n : Nat) (w : Bytes) (h : readFixedN n w = none) : stopPtrN n w = some ⟨true, .nil⟩ := by
  simp [stopPtrN, zstop, h]
/-- `NewSessionTagFromBytes` (n = 32) / `NewECIESSessionTagFromBytes` (8) -/
theorem newSessionTagFromBytes_zero_on_error (n : Nat) (w : Bytes) (h : w.length ≠ n) :
    stopTagExact n w = some ⟨true, S [.arr n]⟩ := by
  simp [stopTagExact, zstop, h]
/-- `data.NewHashFromSlice` -/
theorem newHashFromSlice_zero_on_error (w : Bytes) (h : w.length ≠ 32) : stopHashExact w = some ⟨true, .arr 32⟩ := by
  simp [stopHashExact, zstop, h]
/-- `data.NewIntegerFromBytes` -/
theorem newIntegerFromBytes_zero_on_error (w : Bytes) (h : newIntegerFromBytes w = none) :
    stopIntFromBytes w = some ⟨true, .nil⟩ := by
  simp [stopIntFromBytes, zstop, h]
/-- `data.NewI2PStringFromBytes` -/
theorem newI2PStringFromBytes_zero_on_error (w : Bytes) (h : newStrFromBytes w = none) :
    stopStrFromBytes w = some ⟨true, .nil⟩ := by
  simp [stopStrFromBytes, zstop, h]
/-- `lease_set.ReadLeaseSet`: `LeaseSet{}` -/
theorem readLeaseSet_zero_on_error (w : Bytes) (h : readLeaseSet w = none) : stopLeaseSet w = some ⟨true, leaseSet0⟩ := by
  simp [stopLeaseSet, zstop, h]
/-- `lease_set.ReadDestinationFromLeaseSet`: `Destination{}` -/
theorem readDestinationFromLeaseSet_zero_on_error (w : Bytes) (h : readDestFromLS w = none) :
    stopDestFromLS w = some ⟨true, dest0⟩ := by
  simp [stopDestFromLS, zstop, h]

/-- the hypotheses above are satisfiable: the empty input is rejected by every one of these readers -/
example : readCert [] = none ∧ readKac [] = none ∧ readDestination [] = none ∧ readLeaseSet [] = none ∧
    readFixedN 44 [] = none ∧ readSigInt [] 7 = none := by decide

/-- (package, type) of the value types whose readers above return the zero value with every error -/
def zeroOnErrorTypes : List (String × String) :=
  [("destination", "Destination"), ("signature", "Signature"), ("lease", "Lease"), ("lease", "Lease2"),
   ("session_key", "SessionKey"), ("session_tag", "SessionTag"), ("session_tag", "ECIESSessionTag"),
   ("data", "Date"), ("data", "Hash"), ("data", "Integer"), ("data", "I2PString"), ("lease_set", "LeaseSet")]

/-- **The failed-parse half of C20 for the zero-on-error readers, outright.**  Whatever input such a reader
    rejects, the value it returns is the zero value of its type (the `…_zero_on_error` theorems: `zero = true`),
    the zero value of every one of these types was swept by `harness observe`, no exported argument-free
    method panicked on it (`C20.zero_values_safe`) and no verification succeeded (`C20.zero_values_never_verify`).
    (The readers that return a *pointer* return nil: there is no value to call a method on.) -/
theorem failed_parse_half_of_zero_on_error_readers :
    (∀ w, readDestination w = none → stopDest w = some ⟨true, dest0⟩) ∧
    (∀ w t, readSigInt w t = none → stopSig w t = some ⟨true, sig0⟩) ∧
    (∀ n w, readFixedN n w = none → stopArr n w = some ⟨true, .arr n⟩) ∧
    (∀ n w, readFixedN n w = none → stopTag n w = some ⟨true, S [.arr n]⟩) ∧
    (∀ w, readLeaseSet w = none → stopLeaseSet w = some ⟨true, leaseSet0⟩) ∧
    (∀ t ∈ zeroOnErrorTypes, t ∈ Gen.Observed.zeroTypes.map fun x => (x.1, x.2.1)) ∧
    Gen.Observed.zeroPanics = [] ∧ Gen.Observed.zeroVerifySuccess = [] :=
  ⟨readDestination_zero_on_error, readSignature_zero_on_error, readFixedArray_zero_on_error,
   readSessionTag_zero_on_error, readLeaseSet_zero_on_error, by decide, C20.zero_values_safe, C20.zero_values_never_verify⟩

/-- cross-check on the real library: every value `harness observe` obtained from these readers together with
    an error had exactly the predicted zero class -/
theorem zero_on_error_readers_observed :
    ∀ p ∈ ([(Gen.Observed.partialSwept_ReadCertificate, Shape.nil.code),
      (Gen.Observed.partialSwept_NewKeyCertificate, Shape.nil.code),
      (Gen.Observed.partialSwept_ReadKeysAndCert, Shape.nil.code),
      (Gen.Observed.partialSwept_ReadDestination, dest0.code),
      (Gen.Observed.partialSwept_NewDestinationFromBytes, Shape.nil.code),
      (Gen.Observed.partialSwept_ReadRouterIdentity, Shape.nil.code),
      (Gen.Observed.partialSwept_NewRouterIdentityFromBytes, Shape.nil.code),
      (Gen.Observed.partialSwept_ReadSignature, sig0.code),
      (Gen.Observed.partialSwept_NewSignature, Shape.nil.code),
      (Gen.Observed.partialSwept_NewSignatureFromBytes, sig0.code),
      (Gen.Observed.partialSwept_ReadLease, (Shape.arr 44).code),
      (Gen.Observed.partialSwept_NewLeaseFromBytes, Shape.nil.code),
      (Gen.Observed.partialSwept_ReadLease2, (Shape.arr 40).code),
      (Gen.Observed.partialSwept_NewLease2FromBytes, Shape.nil.code),
      (Gen.Observed.partialSwept_ReadSessionKey, (Shape.arr 32).code),
      (Gen.Observed.partialSwept_NewSessionKey, Shape.nil.code),
      (Gen.Observed.partialSwept_ReadSessionTag, (S [.arr 32]).code),
      (Gen.Observed.partialSwept_NewSessionTag, Shape.nil.code),
      (Gen.Observed.partialSwept_NewSessionTagFromBytes, (S [.arr 32]).code),
      (Gen.Observed.partialSwept_ReadECIESSessionTag, (S [.arr 8]).code),
      (Gen.Observed.partialSwept_NewECIESSessionTag, Shape.nil.code),
      (Gen.Observed.partialSwept_NewECIESSessionTagFromBytes, (S [.arr 8]).code),
      (Gen.Observed.partialSwept_ReadDate, (Shape.arr 8).code),
      (Gen.Observed.partialSwept_NewDate, Shape.nil.code),
      (Gen.Observed.partialSwept_ReadHash, (Shape.arr 32).code),
      (Gen.Observed.partialSwept_NewHashFromSlice, (Shape.arr 32).code),
      (Gen.Observed.partialSwept_NewIntegerFromBytes, Shape.nil.code),
      (Gen.Observed.partialSwept_NewI2PStringFromBytes, Shape.nil.code),
      (Gen.Observed.partialSwept_ReadLeaseSet, leaseSet0.code),
      (Gen.Observed.partialSwept_ReadDestinationFromLeaseSet, dest0.code)] : List (List (List Nat) × List Nat)),
      p.1 = [p.2] := by decide

/-! ## readers that hand out partially populated values -/

/-- `data.ReadI2PString`: nil on empty input, the whole input (`b<len>`) on a short buffer -/
theorem readI2PString_failed_shapes (w : Bytes) (h : (readStr w).2.2 ≠ none) :
    ∃ o, stopStr w = some o ∧ o.shape.cls ∈ shapes_ReadI2PString ∧ (o.zero = true → o.shape = .nil) :=
  stops_of_not (stopStr_none w) (fun hs =>
    ⟨stopStr_cls hs, stopStr_ind hs (fun _ => rfl) (by intros; contradiction)⟩) h

/-- `data.ReadMapping` (error = any entry in the error list) -/
theorem readMapping_failed_shapes (w : Bytes) (h : (Mapping.readMapping w).errs ≠ []) :
    ∃ o, stopMapping w = some o ∧ o.shape.cls ∈ shapes_ReadMapping ∧ (o.zero = true → o.shape = map0) :=
  stops_of_not (stopMapping_none w) (fun hs => ⟨stopMapping_cls hs, by
    rw [stopMapping_some hs]; exact fun hz => mapShape_noSize (by simpa using hz)⟩) h

/-- `data.NewMapping`: a non-nil pointer to what `ReadMapping` returned -/
theorem newMapping_failed_shapes (w : Bytes) (h : (Mapping.readMapping w).errs ≠ []) :
    ∃ o, stopNewMapping w = some o ∧ o.shape.cls ∈ shapes_NewMapping :=
  stops_of_not (stopNewMapping_none w) stopNewMapping_cls h

/-- `offline_signature.ReadOfflineSignature`: header scalars only, or header and transient key -/
theorem readOfflineSignature_failed_shapes (w : Bytes) (t : Nat) (h : readOffSig w t = none) :
    ∃ o, stopOffSig w t = some o ∧ o.shape.cls ∈ shapes_ReadOfflineSignature ∧ (o.zero = true → o.shape = off0) :=
  stops_with (stopOffSig_none w t) (fun hs =>
    ⟨stopOffSig_cls hs, stopOffSig_ind hs (fun _ _ => rfl) (by intros; contradiction)⟩) h

/-- `ReadKeysAndCertElgAndEd25519` (`c = 0`) / `ReadKeysAndCertX25519AndEd25519` (`c = 4`): nil, or keys and
    padding without a certificate -/
theorem readKeysAndCertFast_failed_shapes (c : Nat) (w : Bytes) (h : readKacFast c w = none) :
    ∃ o, stopKacFast c w = some o ∧ o.shape.cls ∈ shapes_ReadKeysAndCertFast ∧ (o.zero = true → o.shape = .nil) :=
  stops_with (stopKacFast_none c w) (fun hs =>
    ⟨stopKacFast_cls hs, stopKacFast_ind hs (fun _ => rfl) (by intros; contradiction)⟩) h

/-- `router_address.ReadRouterAddress` -/
theorem readRouterAddress_failed_shapes (w : Bytes) (h : readRouterAddress w = none) :
    ∃ o, stopRA w = some o ∧ o.shape.cls ∈ shapes_ReadRouterAddress ∧ (o.zero = true → o.shape = ra0) :=
  stops_with (stopRA_none w) (fun hs =>
    ⟨stopRA_cls hs, stopRA_ind hs (fun _ => rfl) (by intros; contradiction) (by intros; contradiction)⟩) h

/-- `encrypted_leaseset.ReadEncryptedLeaseSet` -/
theorem readEncryptedLeaseSet_failed_shapes (w : Bytes) (h : readELS w = none) :
    ∃ o, stopELS w = some o ∧ o.shape.cls ∈ shapes_ReadEncryptedLeaseSet ∧ (o.zero = true → o.shape = els0) :=
  stops_with (stopELS_none w) (fun hs =>
    ⟨stopELS_cls hs, stopELS_ind hs (fun _ _ => rfl) (by intros; contradiction)⟩) h

/-- `lease_set2.ReadLeaseSet2` -/
theorem readLeaseSet2_failed_shapes (w : Bytes) (h : readLeaseSet2 w = none) :
    ∃ o, stopLS2 w = some o ∧ o.shape.cls ∈ shapes_ReadLeaseSet2 ∧ (o.zero = true → o.shape = ls20) :=
  stops_with (stopLS2_none w) (fun hs =>
    ⟨stopLS2_cls hs, stopLS2_ind hs (fun _ => rfl) (by intros; contradiction) (by intros; contradiction)⟩) h

/-- `meta_leaseset.ReadMetaLeaseSet` -/
theorem readMetaLeaseSet_failed_shapes (w : Bytes) (h : readMeta w = none) :
    ∃ o, stopMeta w = some o ∧ o.shape.cls ∈ shapes_ReadMetaLeaseSet ∧ (o.zero = true → o.shape = meta0) :=
  stops_with (stopMeta_none w) (fun hs =>
    ⟨stopMeta_cls hs, stopMeta_ind hs (fun _ => rfl) (by intros; contradiction) (by intros; contradiction)⟩) h

/-- `router_info.ReadRouterInfo` -/
theorem readRouterInfo_failed_shapes (w : Bytes) (h : readRouterInfo w = none) :
    ∃ o, stopRI w = some o ∧ o.shape.cls ∈ shapes_ReadRouterInfo ∧ (o.zero = true → o.shape = ri0) :=
  stops_with (stopRI_none w) (fun hs =>
    ⟨stopRI_cls hs, stopRI_ind hs (fun _ => rfl) (by intros; contradiction) (by intros; contradiction)
      (by intros; contradiction)⟩) h

/-- the hypotheses are satisfiable -/
example : readLeaseSet2 [] = none ∧ readMeta [] = none ∧ readELS [] = none ∧ readRouterInfo [] = none ∧
    readRouterAddress [] = none ∧ readOffSig [] 7 = none := by decide

/-! ### every class was built through the real reader, and nothing outside the lists was seen

`Gen.Observed.partialSwept_R` is the list of classes (as token lists, `Shape.code`) of the values
`harness observe` obtained from reader `R` together with an error. -/

theorem readI2PString_classes_swept : ∀ c ∈ shapes_ReadI2PString, c.code ∈ Gen.Observed.partialSwept_ReadI2PString := by decide
theorem readI2PString_classes_exact : ∀ c ∈ Gen.Observed.partialSwept_ReadI2PString, c ∈ shapes_ReadI2PString.map Shape.code := by decide
theorem readMapping_classes_swept : ∀ c ∈ shapes_ReadMapping, c.code ∈ Gen.Observed.partialSwept_ReadMapping := by decide
theorem readMapping_classes_exact : ∀ c ∈ Gen.Observed.partialSwept_ReadMapping, c ∈ shapes_ReadMapping.map Shape.code := by decide
theorem newMapping_classes_swept : ∀ c ∈ shapes_NewMapping, c.code ∈ Gen.Observed.partialSwept_NewMapping := by decide
theorem newMapping_classes_exact : ∀ c ∈ Gen.Observed.partialSwept_NewMapping, c ∈ shapes_NewMapping.map Shape.code := by decide
theorem readOfflineSignature_classes_swept :
    ∀ c ∈ shapes_ReadOfflineSignature, c.code ∈ Gen.Observed.partialSwept_ReadOfflineSignature := by decide
theorem readOfflineSignature_classes_exact :
    ∀ c ∈ Gen.Observed.partialSwept_ReadOfflineSignature, c ∈ shapes_ReadOfflineSignature.map Shape.code := by decide
theorem readKeysAndCertFast_classes_swept : ∀ c ∈ shapes_ReadKeysAndCertFast,
    c.code ∈ Gen.Observed.partialSwept_ReadKeysAndCertElgAndEd25519 ∧
    c.code ∈ Gen.Observed.partialSwept_ReadKeysAndCertX25519AndEd25519 := by decide
theorem readKeysAndCertFast_classes_exact :
    (∀ c ∈ Gen.Observed.partialSwept_ReadKeysAndCertElgAndEd25519, c ∈ shapes_ReadKeysAndCertFast.map Shape.code) ∧
    (∀ c ∈ Gen.Observed.partialSwept_ReadKeysAndCertX25519AndEd25519, c ∈ shapes_ReadKeysAndCertFast.map Shape.code) := by
  decide
theorem readRouterAddress_classes_swept :
    ∀ c ∈ shapes_ReadRouterAddress, c.code ∈ Gen.Observed.partialSwept_ReadRouterAddress := by decide
theorem readRouterAddress_classes_exact :
    ∀ c ∈ Gen.Observed.partialSwept_ReadRouterAddress, c ∈ shapes_ReadRouterAddress.map Shape.code := by decide
theorem readEncryptedLeaseSet_classes_swept :
    ∀ c ∈ shapes_ReadEncryptedLeaseSet, c.code ∈ Gen.Observed.partialSwept_ReadEncryptedLeaseSet := by decide
theorem readEncryptedLeaseSet_classes_exact :
    ∀ c ∈ Gen.Observed.partialSwept_ReadEncryptedLeaseSet, c ∈ shapes_ReadEncryptedLeaseSet.map Shape.code := by decide
theorem readLeaseSet2_classes_swept :
    ∀ c ∈ shapes_ReadLeaseSet2, c.code ∈ Gen.Observed.partialSwept_ReadLeaseSet2 := by decide +kernel
theorem readLeaseSet2_classes_exact :
    ∀ c ∈ Gen.Observed.partialSwept_ReadLeaseSet2, c ∈ shapes_ReadLeaseSet2.map Shape.code := by decide +kernel
theorem readMetaLeaseSet_classes_swept :
    ∀ c ∈ shapes_ReadMetaLeaseSet, c.code ∈ Gen.Observed.partialSwept_ReadMetaLeaseSet := by decide +kernel
theorem readMetaLeaseSet_classes_exact :
    ∀ c ∈ Gen.Observed.partialSwept_ReadMetaLeaseSet, c ∈ shapes_ReadMetaLeaseSet.map Shape.code := by decide +kernel
theorem readRouterInfo_classes_swept :
    ∀ c ∈ shapes_ReadRouterInfo, c.code ∈ Gen.Observed.partialSwept_ReadRouterInfo := by decide +kernel
theorem readRouterInfo_classes_exact :
    ∀ c ∈ Gen.Observed.partialSwept_ReadRouterInfo, c ∈ shapes_ReadRouterInfo.map Shape.code := by decide +kernel

/-- no exported argument-free method panicked on any failed-parse value `harness observe` built (every class
    of every list above, through the real reader) -/
theorem partial_values_safe : Gen.Observed.partialPanics = [] := by decide

/-- `Verify()` / `VerifySignature()` reported success on none of them -/
theorem partial_values_never_verify : Gen.Observed.partialVerifySuccess = [] := by decide

/-! ## verification of a failed-parse value never reports success: what the model carries

In every value a signed-structure reader hands out with an error the signature is *absent*: the `data`
slice of the `signature.Signature` field is nil (LeaseSet2, MetaLeaseSet, EncryptedLeaseSet: the signature is
the last thing parsed, and the one later check — `EncryptedLeaseSet.Validate` — replaces the value by the
zero value), the signature *pointer* is nil (RouterInfo), or the whole value is `LeaseSet{}`.
`RouterInfo.VerifySignature` and `LeaseSet.Verify` reject that by an explicit guard; the three `Verify`
methods without such a guard hand the empty signature to the verifier, so for them the conclusion needs the
(true, but outside /repo) fact that no verifier of go-i2p/crypto accepts a zero-length signature. -/

/-- `LeaseSet2.signature.data` is nil in every failed-parse value -/
theorem leaseSet2_failed_parse_no_signature (w : Bytes) (h : readLeaseSet2 w = none) :
    ∃ o, stopLS2 w = some o ∧ o.shape.field 8 = sig0 :=
  stops_with (stopLS2_none w) (fun hs => stopLS2_ind hs rfl (by intros; rfl) (by intros; rfl)) h

/-- `MetaLeaseSet.signature.data` is nil in every failed-parse value -/
theorem metaLeaseSet_failed_parse_no_signature (w : Bytes) (h : readMeta w = none) :
    ∃ o, stopMeta w = some o ∧ o.shape.field 8 = sig0 :=
  stops_with (stopMeta_none w) (fun hs => stopMeta_ind hs rfl (by intros; rfl) (by intros; rfl)) h

/-- `EncryptedLeaseSet.signature.data` is nil in every failed-parse value -/
theorem encryptedLeaseSet_failed_parse_no_signature (w : Bytes) (h : readELS w = none) :
    ∃ o, stopELS w = some o ∧ o.shape.field 8 = sig0 :=
  stops_with (stopELS_none w) (fun hs => stopELS_ind hs (fun _ => rfl) (by intros; rfl)) h

/-- the same fact read off the class lists (what `harness observe` compared against) -/
theorem signature_absent_in_every_class :
    (∀ c ∈ shapes_ReadLeaseSet2, c.field 8 = sig0) ∧ (∀ c ∈ shapes_ReadMetaLeaseSet, c.field 8 = sig0) ∧
    (∀ c ∈ shapes_ReadEncryptedLeaseSet, c.field 8 = sig0) ∧ (∀ c ∈ shapes_ReadRouterInfo, c.field 6 = .nil) := by
  decide

/-- `validateSignaturePrerequisites` of `RouterInfo.VerifySignature`: identity and signature pointers must
    both be non-nil, otherwise `(false, err)` -/
def riVerifyGuard (s : Shape) : Bool := s.field 0 != .nil && s.field 6 != .nil

/-- `RouterInfo.VerifySignature` stops at its guard on every failed-parse value: the signature pointer is nil -/
theorem routerInfo_failed_parse_never_verifies (w : Bytes) (h : readRouterInfo w = none) :
    ∃ o, stopRI w = some o ∧ riVerifyGuard o.shape = false :=
  stops_with (stopRI_none w) (fun {o} hs => by
    have : o.shape.field 6 = .nil := stopRI_ind hs rfl (by intros; rfl) (by intros; rfl) (by intros; rfl)
    simp [riVerifyGuard, this]) h

/-- `LeaseSet.Verify` on the only failed-parse value, `LeaseSet{}`: the destination is nil and the signature
    empty — `Verify` returns an error at `sigLen == 0` (`Verify.verifyLS`) if not before, in `Bytes()` -/
theorem leaseSet_failed_parse_is_zero (w : Bytes) (h : readLeaseSet w = none) :
    stopLeaseSet w = some ⟨true, leaseSet0⟩ ∧ leaseSet0.field 0 = dest0 ∧ leaseSet0.field 5 = sig0 :=
  ⟨readLeaseSet_zero_on_error w h, rfl, rfl⟩

/-- no verifier accepts a zero-length signature (Ed25519: 64 bytes, ECDSA: 2·n bytes, DSA: 40 bytes are
    checked before anything else in go-i2p/crypto) -/
def RejectsEmptySig (C : Verify.SigScheme) : Prop := ∀ a k m, C.verify a k m [] = false

/-- `LeaseSet.Verify` has its own guard: an empty signature never verifies, whatever the oracle -/
theorem verifyLS_empty_signature (C : Verify.SigScheme) (p : Verify.LSParsed) (hs : p.sig = []) :
    Verify.verifyLS C p = false := by
  simp [Verify.verifyLS, hs]

/-- `RouterInfo.VerifySignature` on an empty signature: only through the oracle -/
theorem verifyRI_empty_signature (C : Verify.SigScheme) (hC : RejectsEmptySig C) (p : Verify.RIParsed) (hs : p.sig = []) :
    Verify.verifyRI C p = false := by
  unfold RejectsEmptySig at hC
  fun_cases Verify.verifyRI C p <;> simp only [hs, hC]

/-- `LeaseSet2.Verify` / `MetaLeaseSet.Verify` with an empty signature: every path ends in the oracle applied
    to `[]` (or fails earlier) -/
theorem verifyDest_empty_signature (pfx : Bytes) (C : Verify.SigScheme) (hC : RejectsEmptySig C) (p : Verify.Parsed)
    (hs : p.sig = []) : Verify.verifyDest pfx C p = false := by
  unfold RejectsEmptySig at hC
  fun_cases Verify.verifyDest pfx C p <;> simp only [hs, hC, Bool.and_false]

/-- `EncryptedLeaseSet.Verify` with an empty signature -/
theorem verifyELS_empty_signature (C : Verify.SigScheme) (hC : RejectsEmptySig C) (p : Verify.ELSParsed)
    (hs : p.sig = []) : Verify.verifyELS C p = false := by
  unfold RejectsEmptySig at hC
  fun_cases Verify.verifyELS C p <;> simp only [hs, hC]

/-- `RejectsEmptySig` is satisfiable (and says nothing about non-empty signatures) -/
example : RejectsEmptySig ⟨fun _ _ _ s => !s.isEmpty⟩ := fun _ _ _ => rfl

end I2P.Props.C20b
