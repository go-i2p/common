import I2P.Identity
import I2P.Proofs.KacLemmas
import I2P.Proofs.BaseLemmas
import I2P.Props.C13
/-! # C07 — identity hashes and addresses are pure functions of the identity's wire bytes

SHA-256 is a parameter `H` with 32-byte output; nothing else is assumed about it.  Collision resistance is
*not* assumed by any theorem: `byte_sensitivity` shows that a change to any key, padding or certificate byte
changes the serialisation, which is all a hash function can be asked to see. -/
namespace I2P.Props.C07
open I2P.Kac I2P.Identity I2P.Base

theorem trimPad_enc32 (x : Bytes) : trimPad (enc32 x) = enc32NoPad x := by
  have hno : ∀ c ∈ (enc32Core false x).reverse, ¬ (c == padChar) = true := fun c hc h =>
    (alpha32_not_special c (enc32NoPad_mem x c (List.mem_reverse.mp hc))).1 (by simpa [padChar] using h)
  have hd : (enc32Core false x).reverse.dropWhile (· == padChar) = (enc32Core false x).reverse := by
    cases h : (enc32Core false x).reverse with
    | nil => rfl
    | cons a t => exact List.dropWhile_cons_of_neg (hno a (by rw [h]; simp))
  unfold trimPad enc32 enc32NoPad
  rw [enc32_eq_nopad_append, List.reverse_append, List.reverse_replicate,
    List.dropWhile_append_of_pos (by simp), hd, List.reverse_reverse]

/-- `Hash()` is `H` of exactly the serialised bytes; the address is the unpadded I2P base32 of that hash
    followed by `.b32.i2p`, 60 characters long; `Base64()` decodes back to the same bytes. -/
theorem hash_and_addresses (H : Bytes → Bytes) (hH : ∀ x, (H x).length = 32) (k : KeysAndCert) (b : Bytes)
    (hb : k.bytes = some b) :
    Identity.hash H k = some (H b) ∧
    base32Address H k = some (enc32NoPad (H b) ++ suffix) ∧
    (enc32NoPad (H b) ++ suffix).length = 60 ∧
    (∃ e, base64 k = some e ∧ dec64 e = some b) := by
  refine ⟨by simp [Identity.hash, hb], by simp [base32Address, hb, trimPad_enc32], ?_, ?_⟩
  · have := enc32Core_length false (H b)
    simp only [enc32NoPad, List.length_append, this, hH, suffix]
    decide
  · exact ⟨enc64 b, by simp [base64, hb], C13.b64_roundtrip b⟩

/-- Two identities compare equal exactly when their serialisations are equal. -/
theorem equals_iff (a b : KeysAndCert) (x y : Bytes) (ha : a.bytes = some x) (hb : b.bytes = some y) :
    equals a b = true ↔ x = y := by
  simp [equals, ha, hb]

/-- The serialisation determines every field: two accepted identities with the same bytes have the same
    encryption key, padding, signing key, certificate bytes and declared types — so changing any key,
    padding or certificate byte changes the bytes that are hashed. -/
theorem byte_sensitivity {w₁ w₂ : Bytes} {k₁ k₂ : KeysAndCert} {r₁ r₂ : Bytes}
    (h₁ : readKac w₁ = some (k₁, r₁)) (h₂ : readKac w₂ = some (k₂, r₂)) (hb : k₁.bytes = k₂.bytes) :
    k₁.pub = k₂.pub ∧ k₁.padding = k₂.padding ∧ k₁.sig = k₂.sig ∧ k₁.kc.cert.bytes = k₂.kc.cert.bytes ∧
      k₁.kc.spk = k₂.kc.spk ∧ k₁.kc.cpk = k₂.kc.cpk := by
  have a₁ := readKac_iff.mp h₁
  have a₂ := readKac_iff.mp h₂
  -- `Bytes()` is the 384-byte key block of the input followed by the certificate: both parts agree
  rw [a₁.bytes, a₂.bytes, Option.some.injEq] at hb
  have hl₁ := a₁.len
  have hl₂ := a₂.len
  obtain ⟨hw, hcb⟩ := List.append_inj hb (by rw [List.length_take, List.length_take]; omega)
  -- the certificate fixes the two type codes, and these cut the fields out of the key block
  obtain ⟨hs, hc⟩ := a₁.cert.types_inj a₂.cert hcb
  have b := a₂.transfer hw hl₁ a₁.cert hs hc
  exact ⟨a₁.pub.trans b.pub.symm, a₁.padding.trans b.padding.symm, a₁.sig.trans b.sig.symm, hcb, hs, hc⟩

/-- The hashed bytes of a parsed identity are exactly the bytes it was parsed from (C01 instance), so hash
    and address are functions of the wire bytes. -/
theorem hash_of_wire_bytes (H : Bytes → Bytes) {w : Bytes} {k : KeysAndCert} {r : Bytes} (h : readKac w = some (k, r)) :
    ∃ b, b ++ r = w ∧ Identity.hash H k = some (H b) := by
  obtain ⟨b, hb, hw⟩ := readKac_consumed h
  exact ⟨b, hw, by simp [Identity.hash, hb]⟩

end I2P.Props.C07
