import I2P.Proofs.NetLemmas
/-! # C17 — router address host/port accessors

"For any options, the host accessor succeeds only when the host option is a literal IPv4 or IPv6
address and returns that address; the port accessor succeeds only for a decimal port in 1..65535 and
returns it in canonical form; the boolean validity helpers agree exactly with those outcomes and the
reported IP version agrees with the address family.  Option lookup returns the value stored under
exactly the requested key, and the static-key and IV accessors succeed exactly for 32- and 16-byte
values."

Property theorems only, for **all** stored option lists `o : List Mapping.Pair` (well-formed or not).
The accessor models are the code-mirroring definitions of `I2P/RouterAddrAcc.lean`; `parseIP`, `atoi`
and `decimal` are the models of `net.ParseIP`, `strconv.Atoi` and `strconv.Itoa` in `I2P/NetAddr.lean`
(all tied to `/repo` and to the Go standard library by the correspondence run of `./check C17`).
"Decimal port" is read as "what `Atoi` accepts, with value in 1..65535" (DESIGN.md, C17). -/

namespace I2P.Props.C17
open I2P.Mapping I2P.NetAddr I2P.RouterAddr

/-! ### Option lookup -/

/-- `GetOption(ToI2PString(k))` returns the value of the *first* stored pair whose key decodes to
    exactly `k` — never the value of a pair whose key is a proper prefix or an extension of `k`. -/
theorem lookup_exact (o : List Pair) (k : Bytes) (h : k.length ≤ 255) :
    getOption o (toI2PString k) = (o.find? fun p => strDataOk p.1 && strData p.1 == k).map (·.2) :=
  get_toI2PString o k h

/-- If no stored pair carries exactly the key `k`, the lookup finds nothing and `CheckOption` is false,
    whatever other keys (prefixes, extensions, other case) are present. -/
theorem lookup_absent (o : List Pair) (k : Bytes) (hno : ∀ p ∈ o, strData p.1 ≠ k) :
    getOption o (toI2PString k) = none ∧ checkOption o k = false ∧ lookup o k = none := by
  have hnone : getOption o (toI2PString k) = none := by
    by_cases h : k.length ≤ 255
    · rw [lookup_exact o k h, List.find?_eq_none.mpr fun p hp => by simp [hno p hp], Option.map_none]
    · rw [toI2PString_long k (by omega)]; rfl
  exact ⟨hnone, by unfold checkOption hasOption; rw [hnone]; rfl, by unfold lookup optString; rw [hnone]⟩

/-- On an option list stored as `len :: content` strings (what the constructor and a clean parse
    store), the decoded lookup is the association-list lookup by exact key: first match wins. -/
theorem lookup_stored (m : List (Bytes × Bytes)) (k : Bytes) (hk : k.length ≤ 255)
    (hm : ∀ kv ∈ m, kv.1.length ≤ 255 ∧ kv.2.length ≤ 255) :
    lookup (storedPairs m) k = (m.find? fun kv => kv.1 == k).map (·.2) := by
  unfold lookup optString
  rw [lookup_exact _ k hk]
  induction m with
  | nil => simp [storedPairs]
  | cons kv t ih =>
    have h1 := hm kv (by simp)
    obtain ⟨ok1, d1⟩ := toI2PString_ok kv.1 h1.1
    obtain ⟨ok2, d2⟩ := toI2PString_ok kv.2 h1.2
    have iht := ih (fun x hx => hm x (by simp [hx]))
    simp only [storedPairs, List.map_cons, List.find?_cons] at iht ⊢
    rw [ok1, d1]
    by_cases he : (kv.1 == k) = true
    · simp [he, ok2, d2]
    · simp [he]
      simpa using iht

/-! ### Host -/

/-- `Host()` succeeds exactly when the host option decodes, is non-empty and is an IP literal, and it
    returns the address `net.ParseIP` gives for it. -/
theorem host_iff (o : List Pair) (a : List Nat) :
    host o = some a ↔ ∃ s, lookup o HOST_OPTION_KEY = some s ∧ s ≠ [] ∧ parseIP s = some a := by
  have hh : host o = (extractOptionBytes o HOST_OPTION_KEY).bind parseIP := by
    unfold host resolveHostIP; cases extractOptionBytes o HOST_OPTION_KEY <;> rfl
  rw [hh, Option.bind_eq_some_iff]
  simp only [extract_iff, and_assoc]

/-- What `net.ParseIP` accepts consists of ASCII hex digits, `.` and `:` only — so nothing that would
    need name resolution (a letter beyond a–f/A–F, a `%zone`, whitespace, brackets, a sign, a `/`, any
    non-ASCII byte) is ever accepted. -/
theorem parseIP_literal (s : Bytes) (a : List Nat) (h : parseIP s = some a) :
    ∀ b ∈ s, (48 ≤ b.toNat ∧ b.toNat ≤ 57) ∨ (97 ≤ b.toNat ∧ b.toNat ≤ 102) ∨ (65 ≤ b.toNat ∧ b.toNat ≤ 70) ∨
      b = 46 ∨ b = 58 := by
  intro b hb
  have := parseIP_lit h b hb
  rw [IsLit, isHexDigit_iff] at this
  simpa only [or_assoc] using this

/-- A dotted-quad literal (the first separator is a dot) always yields the IPv4 family. -/
theorem parseIP_dotted_is_v4 (s : Bytes) (a : List Nat) (hs : firstSep s = some 46) (h : parseIP s = some a) :
    isV4 a = true := by
  unfold parseIP at h
  rw [hs] at h
  obtain ⟨fs, -, rfl⟩ := Option.map_eq_some_iff.mp h
  rfl

/-- `Host()` never succeeds on anything but a literal: the accepted host option is non-empty and made of
    hex digits, dots and colons. -/
theorem host_literal (o : List Pair) (a : List Nat) (h : host o = some a) :
    ∃ s, lookup o HOST_OPTION_KEY = some s ∧ s ≠ [] ∧ parseIP s = some a ∧
      ∀ b ∈ s, (48 ≤ b.toNat ∧ b.toNat ≤ 57) ∨ (97 ≤ b.toNat ∧ b.toNat ≤ 102) ∨ (65 ≤ b.toNat ∧ b.toNat ≤ 70) ∨
        b = 46 ∨ b = 58 := by
  obtain ⟨s, h1, h2, h3⟩ := (host_iff o a).mp h
  exact ⟨s, h1, h2, h3, parseIP_literal s a h3⟩

/-- `HasValidHost()` is true exactly when `Host()` succeeds. -/
theorem hasValidHost_eq (o : List Pair) : hasValidHost o = (host o).isSome := by
  unfold hasValidHost hostString host resolveHostIP
  refine (fetch_guarded o HOST_OPTION_KEY false fun s => (parseIP s).isSome).trans ?_
  cases extractOptionBytes o HOST_OPTION_KEY <;> rfl

/-- Whenever `Host()` succeeds, `IPVersion()` is "4" exactly for the IPv4 family (`To4() != nil`, which
    includes v4-mapped IPv6 literals) and "6" otherwise. -/
theorem ipVersion_agrees (o : List Pair) (a : List Nat) (h : host o = some a) :
    ipVersion o = if isV4 a then [52] else [54] := by
  unfold ipVersion; rw [ipVersionFromHost_eq, h]; cases h4 : isV4 a <;> simp [h4]

/-- Without a usable host, `IPVersion()` is whatever the caps fallback says (the property is silent there). -/
theorem ipVersion_fallback (o : List Pair) (h : host o = none) : ipVersion o = ipVersionFromCaps o := by
  unfold ipVersion; rw [ipVersionFromHost_eq, h]; simp

/-! ### Port -/

/-- `Port()` succeeds exactly when the port option decodes to something `strconv.Atoi` accepts with a
    value in 1..65535, and returns that value in canonical decimal form (`strconv.Itoa`). -/
theorem port_iff (o : List Pair) (p : Bytes) :
    port o = some p ↔ ∃ s n, lookup o PORT_OPTION_KEY = some s ∧ atoi s = some n ∧ 1 ≤ n ∧ n ≤ 65535 ∧
      p = decimal n.toNat := by
  have hp : port o = (extractOptionBytes o PORT_OPTION_KEY).bind validatePortValue := by
    unfold port; cases extractOptionBytes o PORT_OPTION_KEY <;> rfl
  rw [hp, Option.bind_eq_some_iff]
  constructor
  · rintro ⟨s, he, hv⟩
    obtain ⟨n, h⟩ := validatePortValue_iff.mp hv
    exact ⟨s, n, (extract_iff.mp he).1, h⟩
  · rintro ⟨s, n, hl, ha, h⟩
    have hne : s ≠ [] := by rintro rfl; rw [atoi_nil] at ha; cases ha
    exact ⟨s, extract_iff.mpr ⟨hl, hne⟩, validatePortValue_iff.mpr ⟨n, ha, h⟩⟩

/-- The port returned is canonical: `strconv.Atoi` reads it back as a value in 1..65535, it consists of
    ASCII digits only (no sign, no padding) and its first digit is not `0`. -/
theorem port_canonical (o : List Pair) (p : Bytes) (h : port o = some p) :
    ∃ n : Int, 1 ≤ n ∧ n ≤ 65535 ∧ atoi p = some n ∧ p = decimal n.toNat ∧
      (∀ b ∈ p, 48 ≤ b.toNat ∧ b.toNat ≤ 57) ∧ ∃ c t, p = c :: t ∧ 49 ≤ c.toNat := by
  obtain ⟨s, n, _, _, h1, h2, h3⟩ := (port_iff o p).mp h
  obtain ⟨m, rfl⟩ := Int.eq_ofNat_of_zero_le (show 0 ≤ n by omega)
  rw [Int.toNat_natCast] at h3
  obtain ⟨g1, g2, c, t, g3, g4⟩ := decimal_spec m (by omega)
  subst h3
  exact ⟨(m : Int), h1, h2, g1, by rw [Int.toNat_natCast], fun b hb => isDigit_iff.mp (g2 b hb), c, t, g3, g4 (by omega)⟩

/-- `HasValidPort()` is true exactly when `Port()` succeeds. -/
theorem hasValidPort_eq (o : List Pair) : hasValidPort o = (port o).isSome := by
  unfold hasValidPort portString port
  refine (fetch_guarded o PORT_OPTION_KEY false fun s =>
    match atoi s with | none => false | some val => decide (val ≥ 1 ∧ val ≤ 65535)).trans ?_
  cases extractOptionBytes o PORT_OPTION_KEY with
  | none => rfl
  | some s => exact (validatePortValue_isSome s).symm

/-- What `strconv.Atoi` accepts is an optional single sign followed by at least one ASCII digit and
    nothing else (no blank, no underscore, no base prefix, no non-ASCII digit). -/
theorem atoi_digits (s : Bytes) (n : Int) (h : atoi s = some n) :
    ∃ ds, (s = ds ∨ s = 43 :: ds ∨ s = 45 :: ds) ∧ ds ≠ [] ∧ ∀ b ∈ ds, 48 ≤ b.toNat ∧ b.toNat ≤ 57 := by
  obtain ⟨ds, h1, h2, h3, _⟩ := atoi_shape h
  exact ⟨ds, h1, h2, fun b hb => isDigit_iff.mp (h3 b hb)⟩

/-! ### Static key and IV -/

/-- `StaticKey()` succeeds exactly when the "s" option decodes to exactly 32 bytes, and returns them. -/
theorem staticKey_iff (o : List Pair) (k : Bytes) :
    staticKey o = some k ↔ lookup o STATIC_KEY_OPTION_KEY = some k ∧ k.length = 32 := fixedOption_iff

/-- `InitializationVector()` succeeds exactly when the "i" option decodes to exactly 16 bytes. -/
theorem iv_iff (o : List Pair) (k : Bytes) :
    initializationVector o = some k ↔ lookup o INITIALIZATION_VECTOR_OPTION_KEY = some k ∧ k.length = 16 :=
  fixedOption_iff

/-! ### Non-vacuity -/

/-- "1.2.3.4", "::1", "+0080", a prefix decoy and an extension decoy -/
def exOpts : List Pair := storedPairs [
  ([104,111,115], [58,58,49]),                      -- hos   = ::1
  ([104,111,115,116], [49,46,50,46,51,46,52]),      -- host  = 1.2.3.4
  ([104,111,115,116,120], [58,58,50]),              -- hostx = ::2
  ([112,111,114,116], [43,48,48,56,48])]            -- port  = +0080

example : host exOpts = some [0,0,0,0,0,0,0,0,0,0,255,255,1,2,3,4] := by decide
example : hasValidHost exOpts = true ∧ ipVersion exOpts = [52] := by decide
example : port exOpts = some [56,48] ∧ hasValidPort exOpts = true := by decide
example : lookup exOpts [104,111,115,116] = some [49,46,50,46,51,46,52] := by decide
example : lookup exOpts [104,111] = none ∧ lookup exOpts [104,111,115,116,120,120] = none := by decide
/-- an IPv6 literal, a hostname, a zone, a trailing blank, an embedded port -/
example : parseIP [50,48,48,49,58,100,98,56,58,58,49] = some [32,1,13,184,0,0,0,0,0,0,0,0,0,0,0,1] := by decide
example : host (storedPairs [(HOST_OPTION_KEY, [108,111,99,97,108,104,111,115,116])]) = none := by decide   -- localhost
example : parseIP [102,101,56,48,58,58,49,37,101,116,104,48] = none := by decide                          -- fe80::1%eth0
example : parseIP [49,46,50,46,51,46,52,32] = none ∧ parseIP [49,46,50,46,51,46,52,58,56,48] = none := by decide
example : atoi [43,48,48,56,48] = some 80 ∧ atoi [56,48,32] = none ∧ atoi [] = none := by decide
example : port (storedPairs [(PORT_OPTION_KEY, [48])]) = none ∧ port (storedPairs [(PORT_OPTION_KEY, [54,53,53,51,54])]) = none := by decide
example : staticKey (storedPairs [(STATIC_KEY_OPTION_KEY, List.replicate 32 7)]) = some (List.replicate 32 7) := by decide
example : staticKey (storedPairs [(STATIC_KEY_OPTION_KEY, List.replicate 33 7)]) = none := by decide
example : initializationVector (storedPairs [(INITIALIZATION_VECTOR_OPTION_KEY, List.replicate 16 7)]) = some (List.replicate 16 7) := by decide

end I2P.Props.C17
