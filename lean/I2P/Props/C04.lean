import I2P.Proofs.CheckedLemmasLS2
import I2P.Proofs.CheckedLemmasELS
import I2P.Proofs.StructLemmas
/-! # C04 — no input makes a parser panic

Property theorems only; the checked mirrors are in `I2P/Checked.lean`, the helper lemmas in
`I2P/Proofs/CheckedCore.lean`, `CheckedLemmas.lean`, `CheckedLemmasLS2.lean`, `CheckedLemmasELS.lean`.

`I2P/Checked.lean` transcribes the Go parsers a second time with Go's run-time checks explicit
(`s[i]`, `s[lo:hi]` up to the *capacity*, `make` with a negative length, nil dereference) in the monad
`Go α = Except Panic α`.  For every reader `f` there are two theorems:

* `fC_refines` — the checked mirror returns `.ok` of exactly what the pure model (`Data.lean`, `Kac.lean`,
  `Structs.lean`) returns, for EVERY input (and every type argument where a type is a parameter);
* `fC_no_panic` — the corollary that it never returns `.error _`.

The `…S_any_slice` variants state the same for an arbitrary Go slice (any underlying array, offset and
capacity), not only for a buffer whose capacity equals its length.  The section on `ReadKeysAndCert`
also exhibits the panic that the order of the code before commit 706c093 had. -/
namespace I2P.Props.C04
open I2P.Spec I2P.Kac I2P.Structs I2P.Checked
attribute [local congr] Go.bind_congr

/-! ### the primitives: exactly Go's bounds rules -/

/-- `s[lo:hi]` panics iff Go's rule `0 ≤ lo ≤ hi ≤ cap(s)` is violated -/
theorem slice_panics_iff (s : Sl) (lo hi : Int) :
    (∃ e, slice s lo hi = .error e) ↔ ¬ (0 ≤ lo ∧ lo ≤ hi ∧ hi ≤ s.cap) := by
  by_cases h : 0 ≤ lo ∧ lo ≤ hi ∧ hi ≤ s.cap <;> simp [slice, h]

/-- within the length, `s[lo:hi]` is the obvious window of the visible bytes -/
theorem slice_within_len (s : Sl) (lo hi : Nat) (h1 : lo ≤ hi) (h2 : hi ≤ s.len) :
    ∃ t, slice s lo hi = .ok t ∧ t.data = (s.data.drop lo).take (hi - lo) ∧ t.len = hi - lo := by
  refine ⟨_, slice_ok (by omega), ?_, ?_⟩
  · rw [Sl.take_data, Sl.drop_data, Int.toNat_natCast, Int.toNat_sub]
  · rw [Sl.take_len, Sl.drop_len, Int.toNat_natCast, Int.toNat_sub]; omega

/-- `s[i]` panics iff `i` is outside `[0, len)` -/
theorem index_panics_iff (s : Sl) (i : Int) : (∃ e, index s i = .error e) ↔ ¬ (0 ≤ i ∧ i < s.len) := by
  by_cases h : 0 ≤ i ∧ i < s.len <;> simp [index, h]

/-- `make([]byte, n)` panics iff `n < 0` -/
theorem mk_panics_iff (n : Int) : (∃ e, mk n = .error e) ↔ n < 0 := by
  by_cases h : 0 ≤ n <;> simp [mk, h] <;> omega

/-! ### data: Integer, I2PString, Date, Hash -/

theorem readIntegerC_refines (w : Bytes) (size : Int) : readIntegerB w size = .ok (readInteger w size) := by
  simp only [readIntegerB, readIntegerC_eq, readInteger, go]
  by_cases h1 : size ≤ 0 ∨ 8 < size
  · simp only [go, h1]
  by_cases h2 : (w.length : Int) < size
  · simp only [go, h1, h2, show w.length < size.toNat by omega]
  · simp only [go, h1, h2, show ¬ w.length < size.toNat by omega]

theorem readIntegerC_no_panic (w : Bytes) (size : Int) : ∃ r, readIntegerB w size = .ok r :=
  ⟨_, readIntegerC_refines w size⟩

/-- `intFromBytes` (with the `_ = b[7]` bounds hint of `binary.BigEndian.Uint64`) on any slice -/
theorem intFromBytesC_refines (s : Sl) : intFromBytesC s = .ok (intFromBytes s.data) := intFromBytesC_eq s
theorem intFromBytesC_no_panic (s : Sl) : ∃ r, intFromBytesC s = .ok r := ⟨_, intFromBytesC_eq s⟩

/-- `Integer.Int()` on any slice -/
theorem integerIntC_refines (s : Sl) : integerIntC s = .ok (integerInt s.data) := integerIntC_eq s
theorem integerIntC_no_panic (s : Sl) : ∃ r, integerIntC s = .ok r := ⟨_, integerIntC_eq s⟩

theorem readStrC_refines (w : Bytes) :
    readStrC w = .ok ((readStr w).1, (readStr w).2.1, (readStr w).2.2.map StrErrC.ofPure) := by
  obtain ⟨str, rem, h, h1, h2⟩ := readStrS_spec (.ofBytes w)
  simp only [Sl.ofBytes_data] at h h1 h2
  simp only [readStrC, h, bind_ok, pure_eq_ok, h1, h2]

theorem readStrC_no_panic (w : Bytes) : ∃ r, readStrC w = .ok r := ⟨_, readStrC_refines w⟩

theorem readStrS_any_slice (s : Sl) : ∃ r, readStrS s = .ok r := by
  obtain ⟨str, rem, h, -, -⟩ := readStrS_spec s; exact ⟨_, h⟩

theorem readDateC_refines (w : Bytes) : readDateC w = .ok (readDate w) := onBytes_of_spec readDateS_spec w
theorem readDateC_no_panic (w : Bytes) : ∃ r, readDateC w = .ok r := ⟨_, readDateC_refines w⟩

theorem readHashC_refines (w : Bytes) : readHashC w = .ok (readHash w) := onBytes_of_spec readHashS_spec w
theorem readHashC_no_panic (w : Bytes) : ∃ r, readHashC w = .ok r := ⟨_, readHashC_refines w⟩

/-! ### Certificate, KeyCertificate -/

theorem readCertC_refines (w : Bytes) : readCertC w = .ok (readCert w) := onBytes_of_spec readCertS_spec w
theorem readCertC_no_panic (w : Bytes) : ∃ r, readCertC w = .ok r := ⟨_, readCertC_refines w⟩
theorem readCertS_any_slice (s : Sl) : ∃ r, readCertS s = .ok r ∧ vRem r = readCert s.data := readCertS_spec s

theorem newKeyCertC_refines (w : Bytes) : newKeyCertC w = .ok (newKeyCert w) := onBytes_of_spec newKeyCertS_spec w
theorem newKeyCertC_no_panic (w : Bytes) : ∃ r, newKeyCertC w = .ok r := ⟨_, newKeyCertC_refines w⟩
theorem newKeyCertS_any_slice (s : Sl) : ∃ r, newKeyCertS s = .ok r ∧ vRem r = newKeyCert s.data := newKeyCertS_spec s

/-! ### KeysAndCert: the current order never panics, the pre-fix order did -/

/-- the padding code relies on exactly two guards — crypto key ≤ 256 bytes and signing key ≤ 128 bytes —
    and under them it cannot panic (and returns the pure model's padding) -/
theorem extractPaddingC_guard (s : Sl) (cs ss : Nat) (h : 384 ≤ s.len) (hc : cs ≤ 256) (hs : ss ≤ 128) :
    extractPaddingFromDataC s cs ss = .ok (extractPadding s.data cs ss) :=
  extractPaddingFromDataC_eq s cs ss h hc hs

/-- without the second guard it panics: a 32-byte crypto key with a signing key of 129…351 bytes makes
    `padding[:224]` exceed the capacity `384 - 32 - ss` of the `make`d padding buffer -/
theorem extractPaddingC_unguarded_panics (s : Sl) (ss : Nat) (h : 384 ≤ s.len) (h1 : 128 < ss) (h2 : ss < 352) :
    extractPaddingFromDataC s 32 ss = .error .sliceOOB :=
  extractPaddingFromDataC_panics s ss h h1 h2

/-- `ReadKeysAndCert` in the current order: never a panic, always the pure model's answer -/
theorem readKacC_refines (w : Bytes) : readKacC w = .ok (readKac w) := onBytes_of_spec readKacS_spec w
theorem readKacC_no_panic (w : Bytes) : ∃ r, readKacC w = .ok r := ⟨_, readKacC_refines w⟩
theorem readKacS_any_slice (s : Sl) : ∃ r, readKacS s = .ok r ∧ vRem r = readKac s.data := readKacS_spec s

/-- the 391-byte input of commit 706c093: 384 key-block bytes, then a KEY certificate `05 0004 0003 0004`
    (signing type 3 = P-521, 132 bytes; crypto type 4 = X25519, 32 bytes) -/
def oldPanicInput : Bytes := List.replicate 384 0 ++ [5, 0, 4, 0, 3, 0, 4]

set_option maxRecDepth 20000 in
/-- the pre-fix order of `ReadKeysAndCert` panics on it with "slice bounds out of range" … -/
example : readKacPrefixC oldPanicInput = .error .sliceOOB := by rfl

set_option maxRecDepth 20000 in
/-- … the current order rejects it with an ordinary error -/
example : readKacC oldPanicInput = .ok none := by rfl

/-- the pre-fix order panics on EVERY input whose key certificate declares a 32-byte crypto key
    (types 4–7) together with P-521 or RSA-2048 signing (types 3, 4) -/
theorem readKacPrefixC_panics (w : Bytes) (h : 387 ≤ w.length) (t : Bytes) (h5 : w.drop 384 = 5 :: t)
    (kc : KeyCert) (rem : Bytes) (hkc : newKeyCert (w.drop 384) = some (kc, rem))
    (hc : kc.cpk = 4 ∨ kc.cpk = 5 ∨ kc.cpk = 6 ∨ kc.cpk = 7) (hs : kc.spk = 3 ∨ kc.spk = 4) :
    readKacPrefixC w = .error .sliceOOB :=
  onBytes_error (readKacPrefixS_panics (.ofBytes w) (by simpa using h) kc rem t (by simpa using h5)
    (by simpa using hkc) hc hs)

set_option maxRecDepth 20000 in
/-- the hypotheses of `readKacPrefixC_panics` are satisfiable -/
example : ∃ (w t : Bytes) (kc : KeyCert) (rem : Bytes), 387 ≤ w.length ∧ w.drop 384 = 5 :: t ∧ newKeyCert (w.drop 384) = some (kc, rem) ∧
    (kc.cpk = 4 ∨ kc.cpk = 5 ∨ kc.cpk = 6 ∨ kc.cpk = 7) ∧ (kc.spk = 3 ∨ kc.spk = 4) := by
  refine ⟨oldPanicInput, [0, 4, 0, 3, 0, 4],
    { cert := { kind := [5], len := [0, 4], payload := [0, 3, 0, 4] }, spk := 3, cpk := 4 }, [], ?_, ?_, ?_, Or.inl rfl, Or.inl rfl⟩
  · simp only [oldPanicInput, List.length_append, List.length_replicate]; decide
  · exact List.drop_left' (List.length_replicate ..)
  · rw [show oldPanicInput.drop 384 = [5, 0, 4, 0, 3, 0, 4] from List.drop_left' (List.length_replicate ..)]; rfl

theorem readKacElgEdC_refines (w : Bytes) : readKacElgEdC w = .ok (readKacFast 0 w) :=
  onBytes_of_spec readKacElgEdS_spec w
theorem readKacElgEdC_no_panic (w : Bytes) : ∃ r, readKacElgEdC w = .ok r := ⟨_, readKacElgEdC_refines w⟩

theorem readKacX25519EdC_refines (w : Bytes) : readKacX25519EdC w = .ok (readKacFast 4 w) :=
  onBytes_of_spec readKacX25519EdS_spec w
theorem readKacX25519EdC_no_panic (w : Bytes) : ∃ r, readKacX25519EdC w = .ok r := ⟨_, readKacX25519EdC_refines w⟩

theorem readDestinationC_refines (w : Bytes) : readDestinationC w = .ok (readDestination w) :=
  onBytes_of_spec readDestinationS_spec w
theorem readDestinationC_no_panic (w : Bytes) : ∃ r, readDestinationC w = .ok r := ⟨_, readDestinationC_refines w⟩

/-! ### Signature, OfflineSignature -/

/-- for every signature type (16-bit or not) -/
theorem readSigC_refines (w : Bytes) (t : Nat) : readSigC w t = .ok (readSig w t) :=
  onBytes_of_spec (f := (readSigS · (t : Int))) (g := fun d => readSig d t) (fun s => readSigS_spec s t) w

/-- for every Go `int`, negative ones included -/
theorem readSigC_no_panic (w : Bytes) (t : Int) : ∃ r, readSigC w t = .ok r := by
  by_cases h : t < 0
  · exact ⟨_, onBytes_ok (f := (readSigS · t)) (readSigS_neg _ h)⟩
  · obtain ⟨n, rfl⟩ := Int.eq_ofNat_of_zero_le (by omega : 0 ≤ t)
    exact ⟨_, readSigC_refines w n⟩

theorem readSigS_any_slice (s : Sl) (t : Nat) : ∃ r, readSigS s t = .ok r ∧ vRem r = readSig s.data t :=
  readSigS_spec s t

/-- for every destination signature type: the parsed offline signature re-serialises to the bytes the pure
    model returns, with the same remainder and transient type -/
theorem readOffSigC_refines (w : Bytes) (t : Nat) :
    ∃ r, readOffSigC w t = .ok r ∧ r.map (fun p => (p.1.bytes, p.2, p.1.sigtype)) = readOffSig w t := by
  obtain ⟨r, hr, hv⟩ := readOffSigS_spec (.ofBytes w) t
  refine ⟨_, onBytes_ok (f := (readOffSigS · t)) hr, ?_⟩
  rw [Sl.ofBytes_data] at hv
  rw [← hv]; cases r <;> rfl

theorem readOffSigC_no_panic (w : Bytes) (t : Nat) : ∃ r, readOffSigC w t = .ok r := by
  obtain ⟨r, h, -⟩ := readOffSigC_refines w t; exact ⟨r, h⟩

theorem readOffSigS_any_slice (s : Sl) (t : Nat) : ∃ r, readOffSigS s t = .ok r ∧ vOff r = readOffSig s.data t :=
  readOffSigS_spec s t

/-! ### Lease, Lease2 -/

theorem readLeaseC_refines (w : Bytes) : readLeaseC w = .ok (readFixedN 44 w) := onBytes_of_spec readLeaseS_spec w
theorem readLeaseC_no_panic (w : Bytes) : ∃ r, readLeaseC w = .ok r := ⟨_, readLeaseC_refines w⟩

theorem readLease2C_refines (w : Bytes) : readLease2C w = .ok (readFixedN 40 w) := onBytes_of_spec readLease2S_spec w
theorem readLease2C_no_panic (w : Bytes) : ∃ r, readLease2C w = .ok r := ⟨_, readLease2C_refines w⟩

/-! ### LeaseSet2: the parse helpers

This section covers the helpers around the options mapping; `ls2Head`, `ls2Tail` are the corresponding lines of
the pure `readLeaseSet2` (`readLeaseSet2_pieces`).  The options mapping (`parseOptionsMapping`,
`common.ReadMapping`) and the end-to-end theorem `readLeaseSet2C_refines` are in `Props/C04b.lean`. -/

/-- `ls2Head`/`ls2Tail` are literally the head and the tail of the pure model -/
theorem readLeaseSet2_pieces (d : Bytes) : readLeaseSet2 d =
    if d.length < 499 then none else
    match readDestination d with
    | none => none
    | some (k, r) =>
      match k.bytes with
      | none => none
      | some db =>
        if r.length < 8 then none else
        match (if beVal ((r.drop 6).take 2) % 2 = 1 then readOffSig (r.drop 8) k.kc.spk
               else some ([], r.drop 8, k.kc.spk)) with
        | none => none
        | some (ob, r1, sigT) =>
          match readOptions r1 true with
          | none => none
          | some (optb, r2) => (ls2Tail sigT r2).map (fun p => (db ++ r.take 8 ++ ob ++ optb ++ p.1, p.2)) := by
  rw [readLeaseSet2_eq]
  simp only [withHdr, offStage, ls2Cont_eq]
  rfl

/-- `parseDestinationAndHeader`: never panics; destination, published, expires, flags and remainder are
    those of the pure model; on success the destination pointer is set -/
theorem parseDestinationAndHeaderC_refines (ls2 : LS2) (s : Sl) :
    ∃ r, parseDestinationAndHeaderC ls2 s = .ok r ∧
      (∀ l rem, r = some (l, rem) → l.destination.isSome) ∧
      r.map (fun p => (p.1.destination, p.1.published, p.1.expires, p.1.flags, p.2.data)) =
        (ls2Head s.data).map (fun q => (some q.1, q.2.1, q.2.2.1, q.2.2.2.1, q.2.2.2.2)) := by
  obtain ⟨r, hr, hm⟩ := parseDestinationAndHeaderC_spec ls2 s
  refine ⟨r, hr, ?_⟩
  rcases r with _ | ⟨l, rem⟩ <;> simp only [] at hm
  · rw [hm]; exact ⟨by rintro _ _ ⟨⟩, rfl⟩
  · obtain ⟨k, pub, exp, fl, rfl, hH⟩ := hm
    rw [hH]; exact ⟨by rintro _ _ ⟨⟩; rfl, rfl⟩

/-- `parseOfflineSignature`: never panics once the destination is set (it dereferences it) -/
theorem parseOfflineSignatureC_no_panic' (ls2 : LS2) (s : Sl) (hd : ls2.destination.isSome) :
    ∃ r, parseOfflineSignatureC ls2 s = .ok r := by
  obtain ⟨k, hk⟩ := Option.isSome_iff_exists.mp hd
  unfold parseOfflineSignatureC
  cases ls2.hasOfflineKeys
  · exact ⟨_, rfl⟩
  · obtain ⟨r, hr, -⟩ := readOffSigS_spec s (k.kc.spk % 65536)
    simp only [go, hk, deref, hr]
    cases r <;> exact ⟨_, rfl⟩

/-- … and computes the `off` value of the pure model -/
theorem parseOfflineSignatureC_refines (ls2 : LS2) (s : Sl) (k : KeysAndCert) (hd : ls2.destination = some k)
    (ho : ls2.offlineSignature = none) :
    ∃ r, parseOfflineSignatureC ls2 s = .ok r ∧
      (∀ l rem, r = some (l, rem) → l.destination = some k ∧ l.flags = ls2.flags ∧
        (l.offlineSignature.isSome ↔ ls2.flags % 2 = 1)) ∧
      r.map (fun p => ((p.1.offView k).1, p.2.data, (p.1.offView k).2)) =
        (if ls2.flags % 2 = 1 then readOffSig s.data (k.kc.spk % 65536) else some ([], s.data, k.kc.spk)) := by
  obtain ⟨r, hr, hm⟩ := parseOfflineSignatureC_spec ls2 s k hd ho
  refine ⟨r, hr, ?_⟩
  rcases r with _ | ⟨l, rem⟩ <;> simp only [] at hm
  · rw [hm]; exact ⟨by rintro _ _ ⟨⟩, rfl⟩
  · obtain ⟨oo, rfl, hoo, hv⟩ := hm
    rw [hv]
    exact ⟨by rintro _ _ ⟨⟩; exact ⟨hd, rfl, hoo⟩, by cases oo <;> rfl⟩

/-- for a destination that came out of the parser the `uint16(…)` conversion is the identity, so the helper
    computes exactly the `off` value of the pure `readLeaseSet2` -/
theorem parseOfflineSignatureC_refines_parsed (ls2 : LS2) (s : Sl) (k : KeysAndCert) (hd : ls2.destination = some k)
    (ho : ls2.offlineSignature = none) (d r : Bytes) (hk : readDestination d = some (k, r)) :
    ∃ res, parseOfflineSignatureC ls2 s = .ok res ∧
      res.map (fun p => ((p.1.offView k).1, p.2.data, (p.1.offView k).2)) =
        (if ls2.flags % 2 = 1 then readOffSig s.data k.kc.spk else some ([], s.data, k.kc.spk)) := by
  obtain ⟨res, h, -, hv⟩ := parseOfflineSignatureC_refines ls2 s k hd ho
  rw [readDestination_spk16 hk] at hv
  exact ⟨res, h, hv⟩

/-- `parseKeysLeasesAndSignature` (key count, key loop, lease count, lease loop, signature): never panics
    once the destination is set, and computes `ls2Tail` -/
theorem parseKeysLeasesAndSignatureC_refines (ls2 : LS2) (s : Sl) (k : KeysAndCert) (hd : ls2.destination = some k) :
    ∃ r, parseKeysLeasesAndSignatureC ls2 s = .ok r ∧
      r.map (fun p => (p.1.tailBytes, p.2.data)) = ls2Tail (ls2.sigTypeOf k) s.data := by
  obtain ⟨r, hr, hm⟩ := parseKeysLeasesAndSignatureC_spec ls2 s k hd
  refine ⟨r, hr, ?_⟩
  rcases r with _ | ⟨l, rem⟩ <;> simp only [] at hm
  · rw [hm]; rfl
  · obtain ⟨ks, xs, sb, rfl, hv⟩ := hm
    rw [hv]; rfl

/-- the helpers in the order `ReadLeaseSet2` calls them never panic, whatever slice `s'` the options parser
    hands on -/
theorem readLeaseSet2_chain_no_panic (s s' : Sl) :
    ∃ r1, parseDestinationAndHeaderC {} s = .ok r1 ∧ ∀ l1 s1, r1 = some (l1, s1) →
      ∃ r2, parseOfflineSignatureC l1 s1 = .ok r2 ∧ ∀ l2 s2, r2 = some (l2, s2) →
        ∃ r3, parseKeysLeasesAndSignatureC l2 s' = .ok r3 := by
  obtain ⟨r1, h1, hm1⟩ := parseDestinationAndHeaderC_spec {} s
  refine ⟨r1, h1, ?_⟩
  rintro l1 s1 rfl
  obtain ⟨k, pub, exp, fl, hl1, -⟩ := hm1
  obtain ⟨r2, h2, hm2⟩ := parseOfflineSignatureC_spec l1 s1 k (by rw [hl1]) (by rw [hl1])
  refine ⟨r2, h2, ?_⟩
  rintro l2 s2 rfl
  obtain ⟨oo, hl2, -, -⟩ := hm2
  obtain ⟨r3, h3, -⟩ := parseKeysLeasesAndSignatureC_spec l2 s' k (by rw [hl2, hl1])
  exact ⟨r3, h3⟩

/-! ### LeaseSet2: loop bounds

Both loops are structural recursions on a fuel argument (termination is by construction); the ghost counter
`n` in their result is the number of loop bodies executed. -/

/-- encryption-key loop, for arbitrary arguments: at most `fuel` iterations, never past `numKeys`, and every
    iteration strictly shortens the remaining input (by at least the 4 header bytes) -/
theorem keys_loop_bounds (fuel : Nat) (i numKeys : Int) (ls2 : LS2) (s : Sl) (l : LS2) (rem : Sl) (n : Nat)
    (h : parseEncryptionKeysLoopC fuel i numKeys ls2 s = .ok (some (l, rem, n))) :
    n ≤ fuel ∧ (n = 0 ∨ i + n ≤ numKeys) ∧ rem.len + 4 * n ≤ s.len ∧ n ≤ s.data.length + 1 := by
  induction fuel generalizing i ls2 s n with
  | zero => cases h; omega
  | succ fuel ih =>
    rw [parseEncryptionKeysLoopC] at h
    by_cases hc : i < numKeys
    case neg => simp only [hc, go] at h; cases h; omega
    simp only [hc, go, bind_eq_ok] at h
    obtain ⟨_ | ⟨l', s'⟩, hp, h⟩ := h
    · cases h
    obtain ⟨_ | ⟨l2, rem2, n2⟩, hq, h⟩ := bind_eq_ok.mp h
    · cases h
    cases h
    have := parseSingleEncryptionKeyC_consumes hp
    obtain ⟨b1, b2, b3, -⟩ := ih _ _ _ _ hq
    rw [s.data_length]
    omega

/-- lease loop, for arbitrary arguments: at most `fuel` iterations, never past `numLeases`, every iteration
    consumes exactly 40 bytes -/
theorem lease_loop_bounds (fuel : Nat) (i numLeases : Int) (ls : List Bytes) (s : Sl) (ls' : List Bytes) (rem : Sl)
    (n : Nat) (h : parseLease2ArrayLoopC fuel i numLeases ls s = .ok (some (ls', rem, n))) :
    n ≤ fuel ∧ (n = 0 ∨ i + n ≤ numLeases) ∧ rem.len + 40 * n = s.len ∧ n ≤ s.data.length + 1 := by
  induction fuel generalizing i ls s n with
  | zero => cases h; omega
  | succ fuel ih =>
    rw [parseLease2ArrayLoopC, readLease2S_eq] at h
    by_cases hc : i < numLeases
    case neg => simp only [hc, go] at h; cases h; omega
    by_cases h40 : s.len < 40
    · simp [hc, h40, go] at h
    simp only [hc, h40, go, bind_eq_ok] at h
    obtain ⟨ls1, -, _ | ⟨l2, rem2, n2⟩, hq, h⟩ := h
    · cases h
    cases h
    obtain ⟨b1, b2, b3, -⟩ := ih _ _ _ _ hq
    rw [Sl.drop_len] at b3
    rw [s.data_length]
    omega

/-- as `parseEncryptionKeys` runs the loop: the number of keys read is the count byte, which is ≤ 16 ≤ 255,
    and `1 + 4·count` bytes at least were consumed -/
theorem parseEncryptionKeysC_count (ls2 : LS2) (s : Sl) (l : LS2) (rem : Sl)
    (h : parseEncryptionKeysC ls2 s = .ok (some (l, rem))) :
    ∃ nk : UInt8, s.data.head? = some nk ∧ l.encryptionKeys.length = nk.toNat ∧ nk.toNat ≤ 16 ∧ nk.toNat ≤ 255 ∧
      rem.len + 1 + 4 * nk.toNat ≤ s.len := by
  obtain ⟨r, hr, hm⟩ := parseEncryptionKeysC_spec ls2 s
  rw [h] at hr
  cases hr
  obtain ⟨nk, ks, hks, -, h16, hl, hlen, hh, -⟩ := hm
  refine ⟨nk, hh, by rw [hl]; simp [hks], h16, by omega, by omega⟩

/-- as `parseLeases` runs the loop: the number of leases read is the count byte ≤ 16 ≤ 255, and exactly
    `1 + 40·count` bytes were consumed -/
theorem parseLeasesC_count (ls2 : LS2) (s : Sl) (l : LS2) (rem : Sl)
    (h : parseLeasesC ls2 s = .ok (some (l, rem))) :
    ∃ nl : UInt8, s.data.head? = some nl ∧ l.leases.length = nl.toNat ∧ nl.toNat ≤ 16 ∧ nl.toNat ≤ 255 ∧
      rem.len + 1 + 40 * nl.toNat = s.len := by
  obtain ⟨r, hr, hm⟩ := parseLeasesC_spec ls2 s
  rw [h] at hr
  cases hr
  obtain ⟨nl, xs, hxs, h16, hl, hlen, hh, -⟩ := hm
  refine ⟨nl, hh, by rw [hl]; exact hxs, h16, by omega, by omega⟩

/-! ### EncryptedLeaseSet -/

theorem readELSS_any_slice (s : Sl) : ∃ r, readELSS s = .ok r ∧ vELS r = readELS s.data := by
  unfold readELSS
  rw [elsParseAllFieldsC_eq, readELS_eq]
  by_cases h : s.len < 109
  · simp only [go, h, vELS]
  have e1 := elsParseSigTypeC_eq {} s (by omega)
  have b0 := beEnc_beVal_take s.data 0 2 (by bounds)
  rw [List.drop_zero] at b0
  generalize beVal (s.data.take 2) = st at e1 b0
  by_cases hk0 : sigPubSize st = 0
  · simp only [go, h, vELS, e1, hk0]
  by_cases hk : s.len - 2 < sigPubSize st
  · simp only [go, h, vELS, e1, hk0, elsParseBlindedPublicKeyC_eq, hk]
  obtain ⟨r, hr, hc⟩ := elsRestC_spec { sigType := st, blindedPublicKey := (s.data.drop 2).take (sigPubSize st) }
    (s.drop (2 + sigPubSize st)) rfl hk0 (by bounds)
  simp only [go, b0] at hc
  simp only [go, h, vELS, e1, hk0, elsParseBlindedPublicKeyC_eq, hk, hr, hc]
  rcases r with _ | ⟨e, rem⟩
  · exact ⟨_, rfl, rfl⟩
  · simp only [Option.bind_some]
    cases e.validateC <;> exact ⟨_, rfl, rfl⟩

/-- `ReadEncryptedLeaseSet` (all parse helpers and `Validate`): never panics, and the parsed value
    re-serialises to exactly what the pure model returns -/
theorem readELSC_refines (w : Bytes) :
    ∃ r, readELSC w = .ok r ∧ r.map (fun p => (p.1.bytes, p.2)) = readELS w := by
  obtain ⟨r, hr, hv⟩ := readELSS_any_slice (.ofBytes w)
  refine ⟨_, onBytes_ok hr, ?_⟩
  rw [Sl.ofBytes_data] at hv
  rw [← hv]; cases r <;> rfl

theorem readELSC_no_panic (w : Bytes) : ∃ r, readELSC w = .ok r := by
  obtain ⟨r, h, -⟩ := readELSC_refines w; exact ⟨r, h⟩

end I2P.Props.C04
