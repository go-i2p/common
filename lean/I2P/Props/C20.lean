import I2P.Gen.Observed
import I2P.Gen.Api
/-! # C20 — zero values and failed-parse results are safe to touch

Zero-value half: the domain (every exported type × every exported argument-free method, promoted methods
included) is finite, and `harness observe` calls every pair by reflection on the freshly built library on
every run, so `Gen.Observed` *is* the library's behaviour on that domain.  The obligations below say that the
observed table is complete for the current API surface (as translated from the source by the extractor) and
that nothing panicked and no verification succeeded.  The failed-parse half (every truncation point of every
generated encoding) is unbounded and is decided by the reflective oracle on the real library in the harness;
it is reported as exploration, not as a theorem. -/
namespace I2P.Props.C20

/-- (package, type, number of exported argument-free methods) derived from the translated API surface -/
def apiTable : List (String × String × Nat) :=
  let rows := Gen.Api.funcs.filter fun f => f.2.1 != "" && f.2.2.2.1.isEmpty
  let keys := (rows.map fun f => (f.1, f.2.1)).eraseDups
  keys.map fun k => (k.1, k.2, (rows.filter fun f => f.1 == k.1 && f.2.1 == k.2).length)

/-- the reflective sweep covered exactly the types and method counts the source declares -/
theorem sweep_complete :
    (∀ x ∈ apiTable, x ∈ Gen.Observed.zeroTypes) ∧ (∀ x ∈ Gen.Observed.zeroTypes, x ∈ apiTable) := by
  decide +kernel

/-- no exported argument-free method panics on the zero value of any exported type -/
theorem zero_values_safe : Gen.Observed.zeroPanics = [] := by decide

/-- verification of a zero value never reports success -/
theorem zero_values_never_verify : Gen.Observed.zeroVerifySuccess = [] := by decide

end I2P.Props.C20
