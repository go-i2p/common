import I2P.Proofs.BaseLemmas
/-! # C13 — base32 / base64 with the I2P alphabets

"For every byte string, encoding then decoding returns the same bytes for padded and unpadded base32
and for base64; the output uses only the I2P alphabets and matches an independent bit-level
implementation of the encodings.  Strings containing any other character (apart from CR and LF, which
the decoders skip) or malformed padding are rejected, and the size-guarded variants reject empty and
oversize input exactly at their documented limits."

Property theorems only.  The model functions are the code-mirroring definitions of `I2P/Base.lean`
(tied to `/repo` by the correspondence run of `./check C13`); byte values: `61` is `=`, `10`/`13` are
LF/CR, `255` is `byte(base32.NoPadding)`.

What is proved at full strength: the three round trips, the output alphabets, the alphabets themselves,
the whole rejection clause for base64, the Safe variants.  The rejection clause for the two base32
decoders is **false of the library as it is today** (findings D25, D26, D27 — the `example`s below show
each on the model); it is proved `…_partial` with exactly those signatures excluded, and at full
strength for the post-fix model `dec32Strict` / `dec32NoPadStrict` (the library after
`fixes/D25-D27-base32-strict.diff`). -/

namespace I2P.Props.C13
open I2P.Base

/-! ### The alphabets -/

/-- The I2P alphabets have 32 and 64 pairwise distinct characters (kernel `decide`). -/
theorem alphabets_distinct :
    alpha32.length = 32 ∧ alpha32.Nodup ∧ alpha64.length = 64 ∧ alpha64.Nodup :=
  ⟨alpha32_length, alpha32_nodup, alpha64_length, alpha64_nodup⟩

/-- Neither alphabet contains `=`, CR or LF (so padding and skipped bytes are never data). -/
theorem alphabets_exclude_special :
    (∀ c ∈ alpha32, c ≠ 61 ∧ c ≠ 10 ∧ c ≠ 13) ∧ (∀ c ∈ alpha64, c ≠ 61 ∧ c ≠ 10 ∧ c ≠ 13) :=
  ⟨fun c h => ⟨(alpha32_not_special c h).1, (alpha32_not_special c h).2.2⟩, alpha64_not_special⟩

/-! ### Round trips, for all byte strings -/

/-- `DecodeString (EncodeToString x) = x` (base32, padded). -/
theorem b32_roundtrip (x : Bytes) : dec32 (enc32 x) = some x := by
  unfold dec32 enc32; rw [stripNL_enc32Core, dec32Loop_enc32Core]

/-- `DecodeStringNoPadding (EncodeToStringNoPadding x) = x` (base32, unpadded). -/
theorem b32_nopad_roundtrip (x : Bytes) : dec32NoPad (enc32NoPad x) = some x := by
  unfold dec32NoPad enc32NoPad; rw [stripNL_enc32Core, dec32Loop_enc32Core]

/-- `DecodeString (EncodeToString x) = x` (base64). -/
theorem b64_roundtrip (x : Bytes) : dec64 (enc64 x) = some x := by
  unfold dec64; rw [stripNL_enc64, dec64Core_enc64]

/-! ### Output alphabet and length -/

/-- Every character of a padded base32 encoding is in the alphabet or is `=`. -/
theorem b32_output_alphabet (x : Bytes) : ∀ c ∈ enc32 x, c ∈ alpha32 ∨ c = 61 := by
  intro c hc
  rcases enc32Core_chars true x c hc with h | ⟨_, h⟩
  · exact Or.inl h
  · exact Or.inr h

/-- Every character of an unpadded base32 encoding is in the alphabet (no `=` at all). -/
theorem b32_nopad_output_alphabet (x : Bytes) : ∀ c ∈ enc32NoPad x, c ∈ alpha32 :=
  enc32NoPad_mem x

/-- Every character of a base64 encoding is in the alphabet or is `=`. -/
theorem b64_output_alphabet (x : Bytes) : ∀ c ∈ enc64 x, c ∈ alpha64 ∨ c = 61 :=
  enc64_chars x

/-- Output lengths: whole quanta for the padded encodings, `⌈8n/5⌉` characters for unpadded base32. -/
theorem output_length (x : Bytes) :
    (enc32 x).length = (x.length + 4) / 5 * 8 ∧ (enc32NoPad x).length = (x.length * 8 + 4) / 5 ∧
    (enc64 x).length = (x.length + 2) / 3 * 4 := by
  refine ⟨?_, ?_, enc64_length x⟩
  · have := enc32Core_length true x; simpa [enc32] using this
  · have := enc32Core_length false x; simpa [enc32NoPad] using this

/-! ### Rejection: base64, full strength -/

/-- Any text containing a byte outside alphabet ∪ {`=`, CR, LF} is rejected by the base64 decoder. -/
theorem b64_rejects_foreign (s : Bytes) (h : ∃ c ∈ s, c ∉ alpha64 ∧ c ≠ 61 ∧ c ≠ 10 ∧ c ≠ 13) : dec64 s = none := by
  obtain ⟨c, hc, hna, h61, h10, h13⟩ := h
  cases hd : dec64 s with
  | none => rfl
  | some r =>
    obtain ⟨body, k, hs, hb, -⟩ := dec64Core_shape _ _ hd
    rcases List.mem_append.mp (hs ▸ mem_stripNL.mpr ⟨hc, h10, h13⟩) with h | h
    · exact absurd (hb c h) hna
    · exact absurd (List.eq_of_mem_replicate h) h61

/-- Malformed padding is rejected by the base64 decoder: whatever it accepts is, once CR/LF are dropped,
    a run of alphabet characters followed by at most two `=`, a whole number of 4-character quanta. -/
theorem b64_rejects_malformed_padding (s r : Bytes) (h : dec64 s = some r) :
    ∃ body k, stripNL s = body ++ List.replicate k 61 ∧ (∀ c ∈ body, c ∈ alpha64) ∧ k ≤ 2 ∧
      (stripNL s).length % 4 = 0 :=
  dec64Core_shape _ _ h

/-! ### Rejection: base32 as it is today — partial, and why -/

/-- Padded base32 decoder: a byte outside alphabet ∪ {`=`, CR, LF} is rejected **provided no `=` occurs
    before it**.  Missing for full strength: the decoder stops reading at the end of a valid padding run
    and ignores the rest of the text (D26), so a foreign byte after padding goes unnoticed. -/
theorem b32_rejects_foreign_partial (p q : Bytes) (c : UInt8)
    (hc : c ∉ alpha32 ∧ c ≠ 61 ∧ c ≠ 10 ∧ c ≠ 13) (hp : ∀ x ∈ p, x ≠ 61) : dec32 (p ++ c :: q) = none :=
  dec32_foreign true p q c hc hc.2.1 hp

/-- Unpadded base32 decoder: a byte outside alphabet ∪ {`=`, CR, LF} is rejected **provided it is not
    0xFF and no 0xFF occurs before it**.  Missing for full strength: `encoding/base32` compares input
    bytes with `byte(NoPadding) = 0xFF`, so 0xFF acts as a padding character (D25) and, like real padding,
    hides everything after it (D26). -/
theorem b32_nopad_rejects_foreign_partial (p q : Bytes) (c : UInt8)
    (hc : c ∉ alpha32 ∧ c ≠ 61 ∧ c ≠ 10 ∧ c ≠ 13) (hff : c ≠ 255) (hp : ∀ x ∈ p, x ≠ 255) :
    dec32NoPad (p ++ c :: q) = none :=
  dec32_foreign false p q c hc hff hp

/-- Corollary in the shape of the property sentence: a text without any `=` that contains a foreign
    byte is rejected by the padded decoder. -/
theorem b32_rejects_foreign_no_padding_partial (s : Bytes) (h : ∃ c ∈ s, c ∉ alpha32 ∧ c ≠ 61 ∧ c ≠ 10 ∧ c ≠ 13)
    (hnp : ∀ x ∈ s, x ≠ 61) : dec32 s = none := by
  obtain ⟨c, hc, hf⟩ := h
  obtain ⟨p, q, rfl⟩ := List.append_of_mem hc
  exact b32_rejects_foreign_partial p q c hf (fun x hx => hnp x (by simp [hx]))

/-- …and likewise for the unpadded decoder on texts without 0xFF. -/
theorem b32_nopad_rejects_foreign_no_ff_partial (s : Bytes) (h : ∃ c ∈ s, c ∉ alpha32 ∧ c ≠ 61 ∧ c ≠ 10 ∧ c ≠ 13)
    (hnf : ∀ x ∈ s, x ≠ 255) : dec32NoPad s = none := by
  obtain ⟨c, hc, hf⟩ := h
  obtain ⟨p, q, rfl⟩ := List.append_of_mem hc
  exact b32_nopad_rejects_foreign_partial p q c hf (hnf c hc) (fun x hx => hnf x (by simp [hx]))

/-! The hypotheses are satisfiable, and the excluded signatures are real: each leniency on the model. -/

/-- the partial theorems apply: "me!a" and "me\x80" are rejected -/
example : dec32 ([109, 101] ++ 33 :: [97]) = none :=
  b32_rejects_foreign_partial [109, 101] [97] 33 (by decide) (by decide)
example : dec32NoPad ([109, 101] ++ 128 :: []) = none :=
  b32_nopad_rejects_foreign_partial [109, 101] [] 128 (by decide) (by decide) (by decide)

/-- D25: "me\xff\xff\xff\xff\xff\xff" decodes to "a" with the no-padding decoder — 0xFF is taken for padding;
    the full-strength clause (255 ∉ alphabet ∪ {61, 10, 13}) would demand `none` -/
example : dec32NoPad [109, 101, 255, 255, 255, 255, 255, 255] = some [97] := by decide
example : (255 : UInt8) ∉ alpha32 ∧ (255 : UInt8) ≠ 61 ∧ (255 : UInt8) ≠ 10 ∧ (255 : UInt8) ≠ 13 := by decide
/-- D26: "me======" followed by "!!" (foreign) or by "aa" decodes to "a" — data after padding is ignored -/
example : dec32 [109, 101, 61, 61, 61, 61, 61, 61, 33, 33] = some [97] := by decide
example : dec32 [109, 101, 61, 61, 61, 61, 61, 61, 97, 97] = some [97] := by decide
/-- D26, excess padding: "me=======" (seven `=`) decodes to "a" -/
example : dec32 [109, 101, 61, 61, 61, 61, 61, 61, 61] = some [97] := by decide
/-- D26 through D25: "me" + 6×0xFF + "!" is accepted by the no-padding decoder -/
example : dec32NoPad [109, 101, 255, 255, 255, 255, 255, 255, 33] = some [97] := by decide
/-- D27: a final quantum of 1, 3 or 6 characters yields no bytes and no error: "a", "mfr", "mfrggz" -/
example : dec32NoPad [97] = some [] := by decide
example : dec32NoPad [109, 102, 114] = some [] := by decide
example : dec32NoPad [109, 102, 114, 103, 103, 122] = some [] := by decide
/-- D27 after a full quantum: "mfrggzdf" + "m" decodes to "abcde" and drops the "m" -/
example : dec32NoPad [109, 102, 114, 103, 103, 122, 100, 102, 109] = some [97, 98, 99, 100, 101] := by decide

/-! ### Rejection: base32 after the fix — full strength

`dec32Strict` / `dec32NoPadStrict` model the library with `fixes/D25-D27-base32-strict.diff` applied
(`valid32` is the validator of the patch).  They are what `./check C13` compares the library with once
`Base.fixApplied` is set. -/

/-- The fix only removes accepted inputs; it never changes a result. -/
theorem b32_strict_refines (s r : Bytes) :
    (dec32Strict s = some r → dec32 s = some r) ∧ (dec32NoPadStrict s = some r → dec32NoPad s = some r) :=
  ⟨fun h => (Option.ite_none_right_eq_some.mp h).2, fun h => (Option.ite_none_right_eq_some.mp h).2⟩

/-- Round trips survive the fix. -/
theorem b32_strict_roundtrip (x : Bytes) :
    dec32Strict (enc32 x) = some x ∧ dec32NoPadStrict (enc32NoPad x) = some x := by
  constructor
  · unfold dec32Strict; rw [valid32_enc32, if_pos rfl]; exact b32_roundtrip x
  · unfold dec32NoPadStrict; rw [valid32_enc32NoPad, if_pos rfl]; exact b32_nopad_roundtrip x

/-- Full-strength rejection clause (padded): any text containing a byte outside alphabet ∪ {`=`, CR, LF}
    is rejected. -/
theorem b32_strict_rejects_foreign (s : Bytes) (h : ∃ c ∈ s, c ∉ alpha32 ∧ c ≠ 61 ∧ c ≠ 10 ∧ c ≠ 13) :
    dec32Strict s = none := by
  obtain ⟨c, hc, hf⟩ := h
  unfold dec32Strict; rw [valid32_foreign true s c hc hf]; rfl

/-- Full-strength rejection clause (unpadded). -/
theorem b32_nopad_strict_rejects_foreign (s : Bytes) (h : ∃ c ∈ s, c ∉ alpha32 ∧ c ≠ 61 ∧ c ≠ 10 ∧ c ≠ 13) :
    dec32NoPadStrict s = none := by
  obtain ⟨c, hc, hf⟩ := h
  unfold dec32NoPadStrict; rw [valid32_foreign false s c hc hf]; rfl

/-- Malformed padding is rejected (padded, after the fix): what is accepted is, once CR/LF are dropped,
    alphabet characters followed by fewer than eight `=` that fill the last quantum, and the number of
    alphabet characters is not 1, 3 or 6 modulo 8 (so the `=` run has length 0, 1, 3, 4 or 6). -/
theorem b32_strict_rejects_malformed_padding (s r : Bytes) (h : dec32Strict s = some r) :
    ∃ body k, stripNL s = body ++ List.replicate k 61 ∧ (∀ c ∈ body, c ∈ alpha32) ∧ k < 8 ∧
      (body.length + k) % 8 = 0 ∧ body.length % 8 ≠ 1 ∧ body.length % 8 ≠ 3 ∧ body.length % 8 ≠ 6 := by
  obtain ⟨body, k, hs, hb, ⟨h1, h3, h6⟩, hk, hl⟩ := (valid32_iff true s).mp (Option.ite_none_right_eq_some.mp h).1
  exact ⟨body, k, hs, hb, hk, hl, h1, h3, h6⟩

/-- Impossible lengths and stray `=` are rejected (unpadded, after the fix): what is accepted consists of
    alphabet characters only, and not 1, 3 or 6 of them modulo 8. -/
theorem b32_nopad_strict_rejects_malformed (s r : Bytes) (h : dec32NoPadStrict s = some r) :
    (∀ c ∈ stripNL s, c ∈ alpha32) ∧ (stripNL s).length % 8 ≠ 1 ∧ (stripNL s).length % 8 ≠ 3 ∧
      (stripNL s).length % 8 ≠ 6 := by
  obtain ⟨body, k, hs, hb, hm, rfl⟩ := (valid32_iff false s).mp (Option.ite_none_right_eq_some.mp h).1
  rw [hs, List.replicate_zero, List.append_nil]
  exact ⟨hb, hm⟩

/-- the D25/D26/D27 inputs are rejected by the post-fix model -/
example : dec32NoPadStrict [109, 101, 255, 255, 255, 255, 255, 255] = none := by decide
example : dec32Strict [109, 101, 61, 61, 61, 61, 61, 61, 97, 97] = none := by decide
example : dec32Strict [109, 101, 61, 61, 61, 61, 61, 61, 61] = none := by decide
example : dec32NoPadStrict [109, 102, 114] = none := by decide
example : dec32Strict [109, 101, 61, 61, 61, 61, 61, 61] = some [97] := by decide

/-! ### Size-guarded variants -/

/-- The guard rejects exactly empty input (`empty`) and input longer than the limit (`tooLarge`). -/
theorem guard_exact (max n : Nat) :
    (sizeGuard max n = some .empty ↔ n = 0) ∧ (sizeGuard max n = some .tooLarge ↔ n ≠ 0 ∧ n > max) ∧
    (sizeGuard max n = none ↔ 0 < n ∧ n ≤ max) := by
  unfold sizeGuard
  by_cases h0 : n = 0
  · simp [h0]
  · by_cases hm : n > max
    · simp [h0, hm] <;> omega
    · simp [h0, hm] <;> omega

/-- `base32.EncodeToStringSafe`, `base64.EncodeToStringSafe`: rejected exactly when empty or longer than
    `MAX_ENCODE_SIZE` (10 MiB); otherwise the plain encoder's result. -/
theorem safe_encoders (x : Bytes) :
    ((∃ e, enc32Safe x = .error e) ↔ x.length = 0 ∨ x.length > 10 * 1024 * 1024) ∧
    (0 < x.length → x.length ≤ 10 * 1024 * 1024 → enc32Safe x = .ok (enc32 x)) ∧
    ((∃ e, enc64Safe x = .error e) ↔ x.length = 0 ∨ x.length > 10 * 1024 * 1024) ∧
    (0 < x.length → x.length ≤ 10 * 1024 * 1024 → enc64Safe x = .ok (enc64 x)) :=
  ⟨(safe_shape maxEncode32 x.length (enc32 x)).1, (safe_shape maxEncode32 x.length (enc32 x)).2,
   (safe_shape maxEncode64 x.length (enc64 x)).1, (safe_shape maxEncode64 x.length (enc64 x)).2⟩

/-- `base32.DecodeStringSafe`, `DecodeStringSafeNoPadding`, `base64.DecodeStringSafe`: rejected by the guard
    exactly when empty or longer than `MAX_DECODE_SIZE` (16 777 216 resp. 13 981 016 characters); otherwise
    the plain decoder's result (error or bytes). -/
theorem safe_decoders (s : Bytes) :
    ((∃ e, dec32Safe s = .error e) ↔ s.length = 0 ∨ s.length > 16777216) ∧
    (0 < s.length → s.length ≤ 16777216 → dec32Safe s = .ok (dec32 s)) ∧
    ((∃ e, dec32SafeNoPad s = .error e) ↔ s.length = 0 ∨ s.length > 16777216) ∧
    (0 < s.length → s.length ≤ 16777216 → dec32SafeNoPad s = .ok (dec32NoPad s)) ∧
    ((∃ e, dec64Safe s = .error e) ↔ s.length = 0 ∨ s.length > 13981016) ∧
    (0 < s.length → s.length ≤ 13981016 → dec64Safe s = .ok (dec64 s)) :=
  ⟨(safe_shape maxDecode32 s.length (dec32 s)).1, (safe_shape maxDecode32 s.length (dec32 s)).2,
   (safe_shape maxDecode32 s.length (dec32NoPad s)).1, (safe_shape maxDecode32 s.length (dec32NoPad s)).2,
   (safe_shape maxDecode64 s.length (dec64 s)).1, (safe_shape maxDecode64 s.length (dec64 s)).2⟩

/-- The limits fit together: the encoding of a maximal input is exactly a maximal decoder input. -/
theorem limits_consistent :
    encodedLen32 maxEncode32 = maxDecode32 ∧ encodedLen64 maxEncode64 = maxDecode64 := by decide

end I2P.Props.C13
