import I2P.Proofs.StructLemmas
/-! # C01 (composite structures) — re-serialisation ++ remainder = input, for every accepted input

In `I2P/Structs.lean` a reader returns the re-serialisation of the accepted value exactly as the Go `Bytes()`
emits it, field by field, and the remainder. -/
namespace I2P.Props.C01
open I2P.Structs

/-- ReadSignature -/
theorem signature :
    ∀ {d : Bytes} {t : Nat} {b r : Bytes}, readSig d t = some (b, r) → b ++ r = d :=
  fun h => (readSig_framed _).consumed' h

/-- ReadOfflineSignature -/
theorem offline_signature :
    ∀ {d : Bytes} {t : Nat} {b r : Bytes} {st : Nat}, readOffSig d t = some (b, r, st) → b ++ r = d :=
  @I2P.Structs.readOffSig_consumed

/-- ReadLease / ReadLease2 (fixed 44 / 40 bytes) -/
theorem lease :
    ∀ {n : Nat} {d b r : Bytes}, readFixedN n d = some (b, r) → b ++ r = d :=
  fun h => (readFixedN_framed _).consumed' h

/-- an options mapping embedded in a stream -/
theorem options :
    ∀ {d : Bytes} {z : Bool} {b r : Bytes}, readOptions d z = some (b, r) → b ++ r = d :=
  fun h => (readOptions_framed _).consumed' h

/-- ReadRouterAddress -/
theorem router_address :
    ∀ {d b r : Bytes}, readRouterAddress d = some (b, r) → b ++ r = d :=
  readRouterAddress_framed.consumed'

/-- ReadLeaseSet2 -/
theorem leaseset2 :
    ∀ {d b r : Bytes}, readLeaseSet2 d = some (b, r) → b ++ r = d :=
  readLeaseSet2_framed.consumed'

/-- ReadMetaLeaseSet -/
theorem meta_leaseset :
    ∀ {d b r : Bytes}, readMeta d = some (b, r) → b ++ r = d :=
  readMeta_framed.consumed'

/-- ReadEncryptedLeaseSet -/
theorem encrypted_leaseset :
    ∀ {d b r : Bytes}, readELS d = some (b, r) → b ++ r = d :=
  readELS_framed.consumed'

/-- ReadRouterInfo -/
theorem router_info :
    ∀ {d b r : Bytes}, readRouterInfo d = some (b, r) → b ++ r = d :=
  readRouterInfo_framed.consumed'

/-- ReadLeaseSet -/
theorem leaseset :
    ∀ {d b r : Bytes}, readLeaseSet d = some (b, r) → b ++ r = d :=
  readLeaseSet_framed.consumed'

end I2P.Props.C01
