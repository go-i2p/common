import I2P.Ctor
import I2P.Proofs.BytesLemmas
/-! # C06 — whatever the library signs it also verifies, before and after the wire

Data-flow theorems for an abstract signature scheme `C : Scheme` with the single law
`sig_correct : verify t (pub t sk) m (sign t sk m r) = true` (any randomness `r`).  Per signing constructor:

* `<s>_signs_what_verify_checks` — the byte string the constructor hands to the signer equals the byte string
  `Verify` recomputes from the constructed value (two expressions over the structure's serialised fields;
  for LeaseSet and LeaseSet2 `Verify` re-serialises the whole value and cuts the signature off by length),
* `<s>_new_verifies` — hence the constructor's output verifies under the public key of the private key used,
* `<s>_verify_depends_on_bytes` — `Verify` is a function of `Bytes()` and the signature alone, so a parser
  that returns a value with the same serialisation (C01) returns a value that verifies: the
  after-the-wire half of the property reduces to the re-serialisation theorems of C01/C11.

What the law does not cover is recorded in `known_findings.json`: D34 (the ECDSA verifier of go-i2p/crypto
cannot be constructed from an I2P-format key, i.e. that dependency does not satisfy `sig_correct`).
D06 (`NewLeaseSet2` did not call the signer at all) is repaired in /repo (c5dd9b4): `ls2NewSigned` is the
constructor; `ls2NewPlaceholder` remains for a nil key, which is outside C06. -/

namespace I2P.Props.C06
open I2P.Ctor

theorem take_body (m s : Bytes) : (m ++ s).take ((m ++ s).length - s.length) = m :=
  take_sub_rem m s

/-! ## RouterInfo (`NewRouterInfo` / `VerifySignature`) -/

theorem ri_signs_what_verify_checks (C : Scheme) (p : RiParts) (sk : C.SK) (r : Bytes) :
    riVerifiedMessage (riNew C p sk r) = riSignedMessage p := rfl

theorem ri_new_verifies (C : Scheme) (p : RiParts) (sk : C.SK) (r : Bytes) :
    riVerify C (riNew C p sk r) (C.pub 7 sk) = true := by
  unfold riVerify
  rw [ri_signs_what_verify_checks]
  exact C.sig_correct 7 sk _ r

theorem ri_verify_depends_on_bytes (C : Scheme) (v v' : RiParts) (key : Bytes)
    (hb : v'.bytes = v.bytes) (hs : v'.signature = v.signature) : riVerify C v' key = riVerify C v key := by
  have hu : v'.unsigned = v.unsigned := by
    unfold RiParts.bytes at hb
    rw [hs] at hb
    exact List.append_cancel_right hb
  unfold riVerify riVerifiedMessage
  rw [hu, hs]

/-! ## LeaseSet (`NewLeaseSet` / `Verify`) -/

theorem ls_signs_what_verify_checks (C : Scheme) (t : Nat) (p : LsParts) (sk : C.SK) (r : Bytes) :
    lsVerifiedMessage (lsNew C t p sk r) = lsSignedMessage p := by
  unfold lsVerifiedMessage LsParts.bytes
  exact take_body _ _

theorem ls_new_verifies (C : Scheme) (t : Nat) (p : LsParts) (sk : C.SK) (r : Bytes) :
    lsVerify C t (lsNew C t p sk r) (C.pub t sk) = true := by
  unfold lsVerify
  rw [ls_signs_what_verify_checks]
  exact C.sig_correct t sk _ r

theorem ls_verify_depends_on_bytes (C : Scheme) (t : Nat) (v v' : LsParts) (key : Bytes)
    (hb : v'.bytes = v.bytes) (hs : v'.signature = v.signature) : lsVerify C t v' key = lsVerify C t v key := by
  unfold lsVerify lsVerifiedMessage
  rw [hb, hs]

/-! ## LeaseSet2 (`NewLeaseSet2` / `Verify`) -/

/-- The message `Verify` recomputes is the message `serializeLeaseSet2ForSigning` builds, whatever is stored
    as the signature. -/
theorem ls2_message_matches (p : Ls2Parts) (s : Bytes) :
    ls2VerifiedMessage { p with signature := s } = ls2SignedMessage p := by
  unfold ls2VerifiedMessage ls2SignedMessage Ls2Parts.bytes
  have : ({ p with signature := s } : Ls2Parts).content = p.content := rfl
  rw [this]
  show 3 :: (p.content ++ s).take ((p.content ++ s).length - s.length) = 3 :: p.content
  rw [take_body]

theorem ls2_signs_what_verify_checks (C : Scheme) (t : Nat) (p : Ls2Parts) (sk : C.SK) (r : Bytes) :
    ls2VerifiedMessage (ls2NewSigned C t p sk r) = ls2SignedMessage p :=
  ls2_message_matches p _

/-- `t` is the destination's signing type, or the transient type when an offline block is present.
    At full strength since c5dd9b4 (D06). -/
theorem ls2_new_verifies (C : Scheme) (t : Nat) (p : Ls2Parts) (sk : C.SK) (r : Bytes) :
    ls2Verify C t (ls2NewSigned C t p sk r) (C.pub t sk) = true := by
  unfold ls2Verify
  rw [ls2_signs_what_verify_checks]
  exact C.sig_correct t sk _ r

/-- a toy scheme satisfying the law: the "signature" is the message itself -/
def echo : Scheme where
  SK := Unit
  pub _ _ := []
  sign _ _ m _ := m
  verify _ _ m s := m == s
  sig_correct := by intros; simp

/-- a minimal LeaseSet2 body -/
def sampleParts : Ls2Parts :=
  { destination := [1], published := [], expires := [], flags := [], offline := [],
    options := [0, 0], keys := [], leases := [] }

/-- Outside C06 (no private key): the placeholder `NewLeaseSet2(…, nil)` stores is not a signature — a scheme
    that satisfies the law rejects it. Before c5dd9b4 this was D06: the output for every key. -/
example : ls2Verify echo 7 (ls2NewPlaceholder 64 sampleParts) (echo.pub 7 ()) = false := by
  decide

theorem ls2_verify_depends_on_bytes (C : Scheme) (t : Nat) (v v' : Ls2Parts) (key : Bytes)
    (hb : v'.bytes = v.bytes) (hs : v'.signature = v.signature) : ls2Verify C t v' key = ls2Verify C t v key := by
  unfold ls2Verify ls2VerifiedMessage
  rw [hb, hs]

/-! ## EncryptedLeaseSet (`NewEncryptedLeaseSet` / `Verify`) -/

theorem els_signs_what_verify_checks (C : Scheme) (t : Nat) (p : ElsParts) (sk : C.SK) (r : Bytes) :
    elsVerifiedMessage (elsNew C t p sk r) = elsSignedMessage p := rfl

theorem els_new_verifies (C : Scheme) (t : Nat) (p : ElsParts) (sk : C.SK) (r : Bytes) :
    elsVerify C t (elsNew C t p sk r) (C.pub t sk) = true := by
  unfold elsVerify
  rw [els_signs_what_verify_checks]
  exact C.sig_correct t sk _ r

/-! ## OfflineSignature (`CreateOfflineSignature` / `VerifySignature`) -/

theorem off_signs_what_verify_checks (C : Scheme) (dt : Nat) (p : OffParts) (sk : C.SK) (r : Bytes) :
    offVerifiedMessage (offCreate C dt p sk r) = offSignedMessage p := rfl

theorem off_create_verifies (C : Scheme) (dt : Nat) (p : OffParts) (sk : C.SK) (r : Bytes) :
    offVerify C dt (offCreate C dt p sk r) (C.pub dt sk) = true := by
  unfold offVerify
  rw [off_signs_what_verify_checks]
  exact C.sig_correct dt sk _ r

/-- With an offline block: the identity key `idsk` (type `dt`) signs the block that carries the transient
    public key, and the transient key `trsk` (type `tt`) signs the structure: both links of the chain that
    `signingPublicKeyForVerification` follows verify. -/
theorem offline_chain_verifies (C : Scheme) (dt tt : Nat) (idsk trsk : C.SK) (exp ty : Bytes) (p : ElsParts) (r₁ r₂ : Bytes) :
    let block := offCreate C dt { expires := exp, transientType := ty, transientKey := C.pub tt trsk } idsk r₁
    offVerify C dt block (C.pub dt idsk) = true ∧
    elsVerify C tt (elsNew C tt p trsk r₂) block.transientKey = true := by
  exact ⟨off_create_verifies C dt _ idsk r₁, els_new_verifies C tt p trsk r₂⟩

end I2P.Props.C06
