import I2P.Proofs.StructLemmas
/-! # C03 (composite structures) — appended bytes change nothing; no proper prefix parses -/
namespace I2P.Props.C03
open I2P.Structs

/-- ReadSignature (b) -/
theorem signature_append :
    ∀ {d : Bytes} {t : Nat} {b r : Bytes},
      readSig d t = some (b, r) → ∀ (x : Bytes), readSig (d ++ x) t = some (b, r ++ x) :=
  fun h => (readSig_framed _).append h

/-- ReadOfflineSignature (b) -/
theorem offline_signature_append :
    ∀ {d : Bytes} {t : Nat} {b r : Bytes} {st : Nat},
      readOffSig d t = some (b, r, st) → ∀ (x : Bytes), readOffSig (d ++ x) t = some (b, r ++ x, st) :=
  @I2P.Structs.readOffSig_append

/-- ReadLease / ReadLease2 (fixed 44 / 40 bytes) (b) -/
theorem lease_append :
    ∀ {n : Nat} {d b r : Bytes},
      readFixedN n d = some (b, r) → ∀ (x : Bytes), readFixedN n (d ++ x) = some (b, r ++ x) :=
  fun h => (readFixedN_framed _).append h

/-- an options mapping embedded in a stream (b) -/
theorem options_append :
    ∀ {d : Bytes} {z : Bool} {b r : Bytes},
      readOptions d z = some (b, r) → ∀ (x : Bytes), readOptions (d ++ x) z = some (b, r ++ x) :=
  fun h => (readOptions_framed _).append h

/-- ReadRouterAddress (b) -/
theorem router_address_append :
    ∀ {d b r : Bytes},
      readRouterAddress d = some (b, r) → ∀ (x : Bytes), readRouterAddress (d ++ x) = some (b, r ++ x) :=
  readRouterAddress_framed.append

/-- ReadLeaseSet2 (b) -/
theorem leaseset2_append :
    ∀ {d b r : Bytes},
      readLeaseSet2 d = some (b, r) → ∀ (x : Bytes), readLeaseSet2 (d ++ x) = some (b, r ++ x) :=
  readLeaseSet2_framed.append

/-- ReadMetaLeaseSet (b) -/
theorem meta_leaseset_append :
    ∀ {d b r : Bytes}, readMeta d = some (b, r) → ∀ (x : Bytes), readMeta (d ++ x) = some (b, r ++ x) :=
  readMeta_framed.append

/-- ReadEncryptedLeaseSet (b) -/
theorem encrypted_leaseset_append :
    ∀ {d b r : Bytes}, readELS d = some (b, r) → ∀ (x : Bytes), readELS (d ++ x) = some (b, r ++ x) :=
  readELS_framed.append

/-- ReadRouterInfo (b) -/
theorem router_info_append :
    ∀ {d b r : Bytes},
      readRouterInfo d = some (b, r) → ∀ (x : Bytes), readRouterInfo (d ++ x) = some (b, r ++ x) :=
  readRouterInfo_framed.append

/-- ReadLeaseSet (b) -/
theorem leaseset_append :
    ∀ {d b r : Bytes},
      readLeaseSet d = some (b, r) → ∀ (x : Bytes), readLeaseSet (d ++ x) = some (b, r ++ x) :=
  readLeaseSet_framed.append

/-- ReadSignature (c) -/
theorem signature_no_prefix :
    ∀ {d : Bytes} {t : Nat} {b : Bytes},
      readSig d t = some (b, []) → ∀ (k : Nat), k < List.length d → readSig (List.take k d) t = none :=
  fun h _ => (readSig_framed _).no_prefix h

/-- ReadOfflineSignature (c) -/
theorem offline_signature_no_prefix :
    ∀ {d : Bytes} {t : Nat} {b : Bytes} {st : Nat},
      readOffSig d t = some (b, [], st) → ∀ (k : Nat), k < List.length d → readOffSig (List.take k d) t = none :=
  @I2P.Structs.readOffSig_no_prefix

/-- ReadLease / ReadLease2 (fixed 44 / 40 bytes) (c) -/
theorem lease_no_prefix :
    ∀ {n : Nat} {d b : Bytes},
      readFixedN n d = some (b, []) → ∀ (k : Nat), k < List.length d → readFixedN n (List.take k d) = none :=
  fun h _ => (readFixedN_framed _).no_prefix h

/-- an options mapping embedded in a stream (c) -/
theorem options_no_prefix :
    ∀ {d : Bytes} {z : Bool} {b : Bytes},
      readOptions d z = some (b, []) → ∀ (k : Nat), k < List.length d → readOptions (List.take k d) z = none :=
  fun h _ => (readOptions_framed _).no_prefix h

/-- ReadRouterAddress (c) -/
theorem router_address_no_prefix :
    ∀ {d b : Bytes},
      readRouterAddress d = some (b, []) → ∀ (k : Nat), k < List.length d → readRouterAddress (List.take k d) = none :=
  fun h _ => readRouterAddress_framed.no_prefix h

/-- ReadLeaseSet2 (c) -/
theorem leaseset2_no_prefix :
    ∀ {d b : Bytes},
      readLeaseSet2 d = some (b, []) → ∀ (k : Nat), k < List.length d → readLeaseSet2 (List.take k d) = none :=
  fun h _ => readLeaseSet2_framed.no_prefix h

/-- ReadMetaLeaseSet (c) -/
theorem meta_leaseset_no_prefix :
    ∀ {d b : Bytes},
      readMeta d = some (b, []) → ∀ (k : Nat), k < List.length d → readMeta (List.take k d) = none :=
  fun h _ => readMeta_framed.no_prefix h

/-- ReadEncryptedLeaseSet (c) -/
theorem encrypted_leaseset_no_prefix :
    ∀ {d b : Bytes},
      readELS d = some (b, []) → ∀ (k : Nat), k < List.length d → readELS (List.take k d) = none :=
  fun h _ => readELS_framed.no_prefix h

/-- ReadRouterInfo (c) -/
theorem router_info_no_prefix :
    ∀ {d b : Bytes},
      readRouterInfo d = some (b, []) → ∀ (k : Nat), k < List.length d → readRouterInfo (List.take k d) = none :=
  fun h _ => readRouterInfo_framed.no_prefix h

/-- (c) follows from (b) for every reader of this shape -/
theorem no_prefix_of_append :
    ∀ {R : Bytes → P},
      (∀ (d b r x : Bytes), R d = some (b, r) → R (d ++ x) = some (b, r ++ x)) →
        ∀ {d b : Bytes} {k : Nat}, R d = some (b, []) → k < List.length d → R (List.take k d) = none :=
  fun {R} happ _ _ _ h hk => no_prefix_of_append' R (·.2) (fun h x => ⟨_, happ _ _ _ x h, rfl⟩) h rfl hk

end I2P.Props.C03
