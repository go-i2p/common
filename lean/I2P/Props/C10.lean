import I2P.Tables
import I2P.Gen.Observed
import I2P.Proofs.KacLemmas
/-! # C10 — key/signature size tables agree everywhere and fix the 384-byte key block

`I2P.Gen.Observed` is rewritten on every run by sweeping every size lookup of the freshly built library
over all 65,536 codes; `I2P.Gen.Tables` is re-translated from the Go source (map literals and `switch`
statements).  The theorems below are therefore re-proved against what the code says *now*. -/
namespace I2P.Props.C10
open I2P.Spec I2P.Kac

/-- the specification's signing table as rows (code, public-key bytes, signature bytes) -/
def specSigRows : List (Nat × Int × Int) :=
  [0, 1, 2, 3, 4, 5, 6, 7, 8, 11].filterMap fun c => (sigInfo c).map fun p => (c, (p.1 : Int), (p.2 : Int))
/-- the specification's crypto table as rows (code, public-key bytes) -/
def specCryptoRows : List (Nat × Int) :=
  [0, 1, 2, 3, 4, 5, 6, 7].filterMap fun c => (cryptoInfo c).map fun n => (c, (n : Int))

/-- the row lists are complete: a code is known to the specification iff it has a row -/
theorem specSigRows_complete (c : Nat) : (sigInfo c).isSome = (specSigRows.map (·.1)).contains c := by
  have hrows : specSigRows.map (·.1) = [0, 1, 2, 3, 4, 5, 6, 7, 8, 11] := by decide
  rw [hrows]
  fun_cases sigInfo c
  case case11 => simp_all [List.contains_eq_mem]
  all_goals rfl

theorem specCryptoRows_complete (c : Nat) : (cryptoInfo c).isSome = (specCryptoRows.map (·.1)).contains c := by
  have hrows : specCryptoRows.map (·.1) = [0, 1, 2, 3, 4, 5, 6, 7] := by decide
  rw [hrows]
  fun_cases cryptoInfo c
  case case9 => simp_all [List.contains_eq_mem]
  all_goals rfl

/-- every signing-size lookup the library offers, observed over all 65,536 codes, equals the
    specification table (lookups that report only one component are compared on that component) -/
theorem sig_lookups_agree :
    Gen.Observed.sig_keycert_SigningKeySizes = specSigRows ∧
    Gen.Observed.sig_keycert_GetSigningKeySize_GetSignatureSize = specSigRows ∧
    Gen.Observed.sig_keycert_methods = specSigRows ∧
    Gen.Observed.sig_offline_signature_sizes = specSigRows ∧
    Gen.Observed.sig_keycert_SignaturePublicKeySizes = specSigRows.map (fun r => (r.1, r.2.1, -1)) ∧
    Gen.Observed.sig_signature_SignatureSize = specSigRows.map (fun r => (r.1, -1, r.2.2)) := by decide

/-- every crypto-size lookup (incl. the map used by the LeaseSet2 key validation) equals the specification table -/
theorem crypto_lookups_agree :
    Gen.Observed.crypto_keycert_CryptoKeySizes = specCryptoRows ∧
    Gen.Observed.crypto_keycert_CryptoPublicKeySizes = specCryptoRows ∧
    Gen.Observed.crypto_keycert_GetCryptoKeySize = specCryptoRows ∧
    Gen.Observed.crypto_keycert_crypto_methods = specCryptoRows := by decide

/-- the size tables *as the structure readers use them*, observed over all 65,536 codes through the readers
    themselves: `ReadEncryptedLeaseSet` (+ `EncryptedLeaseSet.Validate`) takes a blinded key and a signature of
    exactly the specification's lengths for exactly the specification's codes, `signature.ReadSignature` consumes
    the specification's signature length, and the LeaseSet2 encryption-key validation (`ReadLeaseSet2` followed by
    `LeaseSet2.Validate`) admits exactly the specification's key length for exactly its crypto codes -/
theorem use_lookups_agree :
    Gen.Observed.use_els = specSigRows ∧
    Gen.Observed.use_readSignature = specSigRows.map (fun r => (r.1, -1, r.2.2)) ∧
    Gen.Observed.use_ls2_key = specCryptoRows := by decide

/-- the sweep saw no internal inconsistency (a lookup knowing an out-of-range code, two getters of one
    table disagreeing on whether a code is known, a "known" answer that is not a usable size) -/
theorem sweep_consistent : Gen.Observed.markers = [] := by decide

/-- Layout of the 384-byte block for every accepted identity: the encryption key occupies the start, the
    signing key the end, the padding exactly the bytes between, and the declared sizes equal the
    lengths of the keys returned. -/
theorem layout_parsed (w : Bytes) (k : KeysAndCert) (r : Bytes) (h : readKac w = some (k, r)) :
    let cs := cryptoSize k.kc.cpk
    let ss := sigPubSize k.kc.spk
    0 < cs ∧ cs ≤ 256 ∧ 0 < ss ∧ ss ≤ 128 ∧ k.pub.length = cs ∧ k.sig.length = ss ∧ k.padding.length = 384 - cs - ss ∧
    ∃ b, k.bytes = some b ∧ b.take cs = k.pub ∧ (b.take 384).drop (384 - ss) = k.sig ∧
      (b.take (384 - ss)).drop cs = k.padding ∧ b.drop 384 = k.kc.cert.bytes ∧ b.take 384 = w.take 384 := by
  intro cs ss
  have a := readKac_iff.mp h
  obtain ⟨c0, c256, s0, s128⟩ := a.sizes
  have hl : (w.take 384).length = 384 := List.length_take_of_le (by have := a.len; omega)
  -- the serialisation and the input have the same key block, so they have the same windows in it
  have hb : (w.take 384 ++ k.kc.cert.bytes).take 384 = w.take 384 := List.take_left' hl
  refine ⟨c0, c256, s0, s128, a.pub_length, a.sig_length, a.padding_length, _, a.bytes, ?_, ?_, ?_,
    List.drop_left' hl, hb⟩
  · rw [a.pub, take_of_take_eq hb (by omega)]
  · rw [a.sig, hb]
  · rw [a.padding, take_of_take_eq hb (by omega)]

/-- The same layout for every value built from fields of the declared sizes (constructor side). -/
theorem layout_constructed (k : KeysAndCert)
    (hcs0 : 0 < cryptoSize k.kc.cpk) (hcs : cryptoSize k.kc.cpk ≤ 256)
    (hss0 : 0 < sigPubSize k.kc.spk) (hss : sigPubSize k.kc.spk ≤ 128)
    (hp : k.pub.length = cryptoSize k.kc.cpk) (hs : k.sig.length = sigPubSize k.kc.spk)
    (hpad : k.padding.length = 384 - cryptoSize k.kc.cpk - sigPubSize k.kc.spk) :
    k.bytes = some (k.pub ++ k.padding ++ k.sig ++ k.kc.cert.bytes) := by
  have _ := hcs0; have _ := hss0  -- not needed: the block is assembled the same way when a size is zero
  exact bytes_of_fields k hcs hss hp hs hpad

end I2P.Props.C10
