import I2P.Proofs.TwinLemmas
/-! # C19b — the separately written twin entry points agree (model half, second slice)

Each family: side A accepts ⇔ side B accepts *within the domain the Go code itself states* (an explicit
hypothesis), and then value and remainder are equal; the other branch of every domain restriction is
proved too.  Where the two sides genuinely disagree in /repo today the model is kept faithful and the
disagreement is a separate `…_differs` theorem with a concrete witness.

Model: `I2P/Twins.lean` (+ the existing models it names); tied to /repo by the `tw*` driver ops
(`I2P/Driver/TwinOps.lean` ↔ `harness/ops_twin.go`, suite `TWIN`). -/
namespace I2P.Props.C19b
open I2P.Kac I2P.Structs I2P.Twins

/-! ### pointer- versus value-returning readers
`NewSignature`, `NewDate`, `NewLeaseFromBytes`, `NewLease2FromBytes`, `NewSessionKey`, `NewSessionTag`,
`NewECIESSessionTag`, `NewMapping`: call the reader, take the address. -/

/-- `signature.NewSignature` = `signature.ReadSignature`: same acceptance, value, remainder -/
theorem signature_new_eq_read (d : Bytes) (t : Int) : newSignature d t = readSignature d t := ptrOf_eq _

/-- `data.NewDate` = `data.ReadDate` -/
theorem date_new_eq_read (d : Bytes) : newDate d = readDate d := ptrOf_eq _

/-- `lease.NewLeaseFromBytes` = `lease.ReadLease`; `lease.NewLease2FromBytes` = `lease.ReadLease2` -/
theorem lease_new_eq_read (d : Bytes) :
    newLeaseFromBytes d = readFixedN 44 d ∧ newLease2FromBytes d = readFixedN 40 d := ⟨ptrOf_eq _, ptrOf_eq _⟩

/-- `session_key.NewSessionKey` = `ReadSessionKey`; `session_tag.NewSessionTag` = `ReadSessionTag`;
    `session_tag.NewECIESSessionTag` = `ReadECIESSessionTag` -/
theorem session_new_eq_read (d : Bytes) :
    newSessionKey d = readSessionKey d ∧ newSessionTag d = readSessionTag d ∧
      newECIESSessionTag d = readECIESSessionTag d := ⟨ptrOf_eq _, ptrOf_eq _, ptrOf_eq _⟩

/-- `data.NewMapping` = `data.ReadMapping` (values, remainder and error list) -/
theorem mapping_new_eq_read (d : Bytes) : newMapping d = Mapping.readMapping d := rfl

/-! ### 1. the three signature constructors -/

/-- `ReadSignature` as written (own length lookup, then a fixed-size read) is the reader model used everywhere else -/
theorem signature_read_as_written (d : Bytes) (t : Int) :
    readSignature d t = match getSignatureLength t with | none => none | some n => readFixedN n d :=
  readSignature_eq d t

/-- All three constructors reject the same type codes (negative, above 65535, reserved, unknown) on every input. -/
theorem signature_same_types (d : Bytes) (t : Int) (h : getSignatureLength t = none) :
    readSignature d t = none ∧ newSignature d t = none ∧ newSignatureFromBytes d t = none := by
  have hr : readSignature d t = none := by rw [readSignature_eq, h]
  refine ⟨hr, by rw [signature_new_eq_read, hr], by rw [newSignatureFromBytes_eq, h]⟩

/-- `NewSignatureFromBytes` requires the exact length: it accepts exactly the inputs `ReadSignature` consumes
    completely, and returns the same signature bytes. -/
theorem signature_fromBytes_iff_read (d s : Bytes) (t : Int) :
    newSignatureFromBytes d t = some s ↔ readSignature d t = some (s, []) := by
  rw [newSignatureFromBytes_eq, readSignature_eq]
  cases getSignatureLength t with
  | none => simp
  | some n => exact setBytes_iff_readFixedN n d s

/-- The other branch: `ReadSignature` also accepts a longer buffer and returns the rest; `NewSignatureFromBytes`
    rejects that buffer, and on the consumed prefix returns the same signature. -/
theorem signature_read_longer (d s r : Bytes) (t : Int) (h : readSignature d t = some (s, r)) (hr : r ≠ []) :
    newSignatureFromBytes d t = none ∧ newSignatureFromBytes s t = some s := by
  rw [readSignature_eq] at h
  rw [newSignatureFromBytes_eq, newSignatureFromBytes_eq]
  cases hg : getSignatureLength t with
  | none => rw [hg] at h; cases h
  | some n => rw [hg] at h; exact readFixedN_longer n d s r h hr

/-- Too short for the type: all three reject. -/
theorem signature_short (d : Bytes) (t : Int) (n : Nat) (hg : getSignatureLength t = some n) (h : d.length < n) :
    readSignature d t = none ∧ newSignature d t = none ∧ newSignatureFromBytes d t = none := by
  have hr : readSignature d t = none := by rw [readSignature_eq, hg]; exact (readFixedN_short n d h).1
  exact ⟨hr, by rw [signature_new_eq_read, hr], by rw [newSignatureFromBytes_eq, hg]; exact (readFixedN_short n d h).2⟩

example : ∃ d s, newSignatureFromBytes d 7 = some s ∧ readSignature d 7 = some (s, []) :=
  have h : newSignatureFromBytes (List.replicate 64 1) 7 = some (List.replicate 64 1) := by decide
  ⟨_, _, h, (signature_fromBytes_iff_read _ _ 7).mp h⟩
example : ∃ d s r, readSignature d 0 = some (s, r) ∧ r ≠ [] :=
  ⟨List.replicate 41 1, List.replicate 40 1, [1], by decide, by decide⟩
example : getSignatureLength 9 = none ∧ getSignatureLength (-1) = none ∧ getSignatureLength 65536 = none := by decide

/-! ### 2. strings -/

/-- `data.ToI2PString` and `data.NewI2PString` accept the same contents (≤ 255 bytes) and build the same bytes. -/
theorem string_to_eq_new (c : Bytes) : toI2PString c = newStr c := by
  unfold toI2PString newStr STRING_MAX_SIZE
  rfl

/-- `data.NewI2PStringFromBytes` accepts exactly the inputs `data.ReadI2PString` reads without error and without
    remainder, and returns the same string. -/
theorem string_fromBytes_iff_read (d s : Bytes) : newStrFromBytes d = some s ↔ readStr d = (s, [], none) := by
  rw [newStrFromBytes_some, readStr_none_iff, List.append_nil]

/-- The other branch: `ReadI2PString` accepts bytes after the string and returns them; `NewI2PStringFromBytes`
    rejects that buffer, and on the consumed prefix returns the same string. -/
theorem string_read_longer (d s r : Bytes) (h : readStr d = (s, r, none)) (hr : r ≠ []) :
    newStrFromBytes d = none ∧ newStrFromBytes s = some s := by
  obtain ⟨hs, rfl⟩ := readStr_none_iff.mp h
  refine ⟨Option.eq_none_iff_forall_ne_some.mpr fun x hx => ?_, newStrFromBytes_some.mpr ⟨hs, rfl⟩⟩
  obtain ⟨hx, rfl⟩ := newStrFromBytes_some.mp hx
  exact hr (strDataOk_append hs hx)

example : ∃ d s, newStrFromBytes d = some s ∧ readStr d = (s, [], none) := ⟨[2, 65, 66], [2, 65, 66], by decide, by decide⟩
example : ∃ d s r, readStr d = (s, r, none) ∧ r ≠ [] := ⟨[1, 65, 66], [1, 65], [66], by decide, by decide⟩

/-! ### 3. integers -/

/-- `data.EncodeIntN` and `data.NewIntegerFromInt`: same rejections (negative value, size outside 1..8, value too
    wide), same bytes. -/
theorem int_encodeIntN_eq_new (v n : Int) : encodeIntN v n = newIntegerFromInt v n := by
  unfold encodeIntN newIntegerFromInt maxValueForSize
  by_cases hv : v < 0
  · rw [if_pos hv, if_pos hv]
  · rw [if_neg hv, if_neg hv]
    by_cases hn : n < 1 ∨ n > 8
    · rw [if_pos hn, if_pos hn]
    · rw [if_neg hn, if_neg hn]
      rw [beEnc_drop_sub (by omega)]

/-- `data.EncodeUint16/32/64` (after Go's `uint16/32/64(v)` conversion) give the bytes `NewIntegerFromInt(v, 2/4/8)`
    gives whenever the latter accepts (the fixed-width helpers cannot fail: outside that domain they truncate). -/
theorem int_encodeUintN_eq_new (v : Int) (k : Nat) (b : Bytes) (hk : k = 2 ∨ k = 4 ∨ k = 8)
    (h : newIntegerFromInt v (k : Int) = some b) : encodeUintN v k = some b := by
  obtain ⟨_, _, _, hm, rfl⟩ := newIntegerFromInt_some h
  unfold maxValueForSize at hm
  rcases hk with rfl | rfl | rfl
  · have : toUInt64 v ≤ 2 ^ 16 - 1 := by simpa using hm
    simp only [encodeUintN, encodeUint16, Int.toNat_natCast]
    rw [Nat.mod_eq_of_lt (by omega)]
  · have : toUInt64 v ≤ 2 ^ 32 - 1 := by simpa using hm
    simp only [encodeUintN, encodeUint32, Int.toNat_natCast]
    rw [Nat.mod_eq_of_lt (by omega)]
  · simp only [encodeUintN, encodeUint64, Int.toNat_natCast]

/-- The other branch of the fixed-width domain: a value too wide is refused by `NewIntegerFromInt` and silently
    truncated by the helper (witness 65536 at width 2). -/
theorem int_encodeUintN_truncates : newIntegerFromInt 65536 2 = none ∧ encodeUintN 65536 2 = some [0, 0] := by decide

/-- `data.DecodeIntN` and `Integer.IntSafe` agree on every byte string whose value is below 2^63 — and on every
    string of a size outside 1..8 (both refuse). -/
theorem int_decodeIntN_eq_intSafe (b : Bytes) (h : b.length ≤ 8 → beVal b < 2 ^ 63) : decodeIntN b = integerIntSafe b := by
  by_cases hl : b.length = 0 ∨ b.length > 8
  · rw [decodeIntN, integerIntSafe, if_pos hl, if_pos hl]
  · obtain ⟨_, hs, _, hd⟩ := intDecoders_small (b := b) (by omega) (by omega) (h (by omega))
    rw [hs, hd]

/-- The other branch, exactly: eight bytes with the top bit set. `DecodeIntN` refuses ("exceeds maximum int"),
    `IntSafe` accepts and returns the value wrapped to a negative `int`. -/
theorem int_decodeIntN_intSafe_high (b : Bytes) (h8 : b.length = 8) (h : 2 ^ 63 ≤ beVal b) :
    decodeIntN b = none ∧ integerIntSafe b = some ((beVal b : Int) - 2 ^ 64) := by
  unfold decodeIntN integerIntSafe intFromBytes
  have hlt := beVal_lt b
  rw [h8, p8] at hlt
  constructor
  · rw [if_neg (by omega), if_pos (by omega)]
  · rw [if_neg (by omega), if_neg (by omega), if_neg (by omega), List.take_of_length_le (by omega),
      toInt64_of_ge h hlt]

/-- DISAGREEMENT in /repo today (confirmed on the real code by `twIntDec ffffffffffffffff`): the two decoders do
    not accept the same inputs. -/
theorem int_decodeIntN_intSafe_differs :
    decodeIntN [0xff, 0xff, 0xff, 0xff, 0xff, 0xff, 0xff, 0xff] = none ∧
    integerIntSafe [0xff, 0xff, 0xff, 0xff, 0xff, 0xff, 0xff, 0xff] = some (-1) := by
  have h := int_decodeIntN_intSafe_high [0xff, 0xff, 0xff, 0xff, 0xff, 0xff, 0xff, 0xff] rfl (by decide)
  refine ⟨h.1, ?_⟩
  rw [h.2]
  decide

example : ∃ b : Bytes, b.length ≤ 8 ∧ beVal b < 2 ^ 63 ∧ decodeIntN b = some 258 := ⟨[1, 2], by decide, by decide, by decide⟩

/-! ### 4. dates -/

/-- `data.NewDateFromUnix(s)` and `data.NewDateFromMillis(s*1000)` on the domain `NewDateFromUnix` states
    (0 ≤ s ≤ MaxInt64/1000, where `s*1000` does not overflow): same acceptance, same eight bytes. -/
theorem date_unix_eq_millis (s : Int) (h0 : 0 ≤ s) (hmax : s ≤ (2 ^ 63 - 1) / 1000) :
    newDateFromUnix s = newDateFromMillis (s * 1000) := by
  unfold newDateFromUnix newDateFromMillis
  rw [if_neg (by omega), if_neg (by omega), if_neg (by omega), Int.mul_ediv_cancel s (by decide), Int.mul_emod_left,
    Int.zero_mul]

/-- negative seconds: both refuse -/
theorem date_unix_millis_negative (s : Int) (h : s < 0) : newDateFromUnix s = none ∧ newDateFromMillis (s * 1000) = none := by
  unfold newDateFromUnix newDateFromMillis
  rw [if_pos h, if_pos (by omega)]
  exact ⟨rfl, rfl⟩

/-- `NewDateFromUnix` accepts exactly its stated domain -/
theorem date_unix_domain (s : Int) : (newDateFromUnix s).isSome ↔ (0 ≤ s ∧ s ≤ (2 ^ 63 - 1) / 1000) := by
  fun_cases newDateFromUnix s
  · exact ⟨nofun, fun h => by omega⟩
  · exact ⟨nofun, fun h => by omega⟩
  · exact ⟨fun _ => by omega, fun _ => rfl⟩

/-- `data.NewDateFromMillis(ms)` and `data.DateFromTime(time.UnixMilli(ms))` for the non-negative counts
    `NewDateFromMillis` accepts: the same eight bytes (`DateFromTime` cannot fail). -/
theorem date_millis_eq_fromTime (ms : Int) (h0 : 0 ≤ ms) :
    newDateFromMillis ms = some (dateFromTime (Time.timeUnixMilli ms)) := by
  unfold newDateFromMillis Time.timeUnixMilli
  rw [if_neg (by omega), Int.tdiv_eq_ediv_of_nonneg h0, Int.tmod_eq_emod_of_nonneg h0]

/-- The other branch: a negative count is refused by `NewDateFromMillis`, while `DateFromTime` (which has no error
    path) stores its two's complement. -/
theorem date_millis_negative (ms : Int) (h : ms < 0) : newDateFromMillis ms = none := by
  unfold newDateFromMillis; rw [if_pos h]

example : ∃ s : Int, 0 ≤ s ∧ s ≤ (2 ^ 63 - 1) / 1000 ∧ (newDateFromUnix s).isSome :=
  ⟨1700000000, by decide, by decide, (date_unix_domain _).2 ⟨by decide, by decide⟩⟩

/-! ### 5. hash -/

/-- `data.ReadHash` as written is the fixed-size read of 32 bytes -/
theorem hash_read_as_written (d : Bytes) : readHash d = readFixedN 32 d := rfl

/-- `data.NewHashFromSlice` accepts exactly the inputs `data.ReadHash` consumes completely; same hash. -/
theorem hash_fromSlice_iff_read (d h : Bytes) : newHashFromSlice d = some h ↔ readHash d = some (h, []) :=
  setBytes_iff_readFixedN 32 d h

/-- The other branch: a longer buffer is read (rest returned) by `ReadHash`, refused by `NewHashFromSlice`; on the
    consumed prefix the values agree. -/
theorem hash_read_longer (d h r : Bytes) (hr : readHash d = some (h, r)) (hne : r ≠ []) :
    newHashFromSlice d = none ∧ newHashFromSlice h = some h := readFixedN_longer 32 d h r hr hne

example : ∃ d h, newHashFromSlice d = some h := ⟨List.replicate 32 7, List.replicate 32 7, by decide⟩

/-! ### 8. session tags -/

/-- `session_tag.NewSessionTagFromBytes` (zero value + `SetBytes`) accepts exactly what `ReadSessionTag` consumes
    completely; same tag. -/
theorem sessionTag_fromBytes_iff_read (d s : Bytes) : newSessionTagFromBytes d = some s ↔ readSessionTag d = some (s, []) :=
  setBytes_iff_readFixedN 32 d s

theorem sessionTag_read_longer (d s r : Bytes) (h : readSessionTag d = some (s, r)) (hr : r ≠ []) :
    newSessionTagFromBytes d = none ∧ newSessionTagFromBytes s = some s := readFixedN_longer 32 d s r h hr

/-- `session_tag.ReadECIESSessionTag` — length check, then `NewECIESSessionTagFromBytes` on the first eight bytes —
    never fails in that inner call: it is the plain fixed-size read. -/
theorem eciesTag_read_as_written (d : Bytes) : readECIESSessionTag d = readFixedN 8 d := readECIESSessionTag_eq d

/-- `session_tag.NewECIESSessionTagFromBytes` accepts exactly what `ReadECIESSessionTag` consumes completely. -/
theorem eciesTag_fromBytes_iff_read (d s : Bytes) :
    newECIESSessionTagFromBytes d = some s ↔ readECIESSessionTag d = some (s, []) := by
  rw [readECIESSessionTag_eq]; exact setBytes_iff_readFixedN 8 d s

theorem eciesTag_read_longer (d s r : Bytes) (h : readECIESSessionTag d = some (s, r)) (hr : r ≠ []) :
    newECIESSessionTagFromBytes d = none ∧ newECIESSessionTagFromBytes s = some s := by
  rw [readECIESSessionTag_eq] at h; exact readFixedN_longer 8 d s r h hr

/-- `session_key.ReadSessionKey` and `session_tag.ReadSessionTag` are the same 32-byte read -/
theorem sessionKey_read_as_written (d : Bytes) : readSessionKey d = readFixedN 32 d ∧ readSessionTag d = readFixedN 32 d :=
  ⟨rfl, rfl⟩

example : ∃ d s, newECIESSessionTagFromBytes d = some s := ⟨List.replicate 8 7, List.replicate 8 7, by decide⟩

/-! ### 9. certificate builder versus direct constructors -/

/-- **Any** sequence of `WithType` / `WithPayload` / `WithKeyTypes` calls (rejected calls leave the builder
    unchanged), then `Build()`: accepted exactly when the direct constructors accept the configuration the calls
    describe (`CertBuilder.direct`: `NewCertificateWithType` on the type last set and the explicit payload or the
    `BuildKeyTypePayload` payload, whichever was set last), and then the same certificate. -/
theorem builder_eq_direct (steps : List Step) :
    (newCertBuilder.run steps).build = (newCertBuilder.run steps).direct :=
  build_eq_direct_of_inv (inv_run steps inv_new)

/-- `NewCertificateWithType(t, p)` ↔ `builder.WithType(t).WithPayload(p).Build()` -/
theorem builder_type_payload (t : Nat) (p : Bytes) (cb : CertBuilder) (h : newCertBuilder.withType t = some cb) :
    (cb.withPayload p).build = newCertWithType t p := by
  rw [build_eq_direct_of_inv (inv_withPayload (inv_withType inv_new h) p)]
  obtain ⟨_, rfl⟩ := withType_some.mp h
  rfl

/-- …and a type `WithType` refuses, `NewCertificateWithType` refuses with every payload. -/
theorem builder_type_rejected (t : Nat) (p : Bytes) (h : newCertBuilder.withType t = none) : newCertWithType t p = none := by
  rw [withType_eq] at h
  split at h
  · cases h
  · unfold newCertWithType
    rw [if_pos (by omega)]

/-- `builder.WithKeyTypes(s, c)` and `certificate.BuildKeyTypePayload(s, c)` state the same domain. -/
theorem builder_keyTypes_iff_payload (s c : Int) :
    (newCertBuilder.withKeyTypes s c).isSome ↔ (buildKeyTypePayload s c).isSome := by
  rw [withKeyTypes_eq, buildKeyTypePayload_eq]; split <;> rfl

/-- `builder.WithKeyTypes(s, c).Build()` = `NewCertificateWithType(KEY, BuildKeyTypePayload(s, c))` -/
theorem builder_keyTypes_build (s c : Int) (cb : CertBuilder) (h : newCertBuilder.withKeyTypes s c = some cb) :
    ∃ pl, buildKeyTypePayload s c = some pl ∧ cb.build = newCertWithType 5 pl := by
  rw [build_eq_direct_of_inv (inv_withKeyTypes h)]
  obtain ⟨hr, rfl⟩ := withKeyTypes_some.mp h
  have hp := (buildKeyTypePayload_eq s c).trans (if_pos hr)
  exact ⟨_, hp, by simp [CertBuilder.direct, hp]⟩

/-- `key_certificate.NewKeyCertificateWithTypes(s, c)` within the key types it states (implemented or experimental
    codes): the builder accepts the same pair and builds the same certificate, which declares exactly (s, c). -/
theorem keyCert_withTypes_eq_builder (s c : Int) (kc : KeyCert) (h : newKeyCertWithTypes s c = some kc) :
    ∃ cb, newCertBuilder.withKeyTypes s c = some cb ∧ cb.build = some kc.cert ∧
      (kc.spk : Int) = s ∧ (kc.cpk : Int) = c := by
  rw [newKeyCertWithTypes_eq, Option.ite_none_right_eq_some, Option.some.injEq] at h
  obtain ⟨⟨hs, hc⟩, rfl⟩ := h
  obtain ⟨s0, s1⟩ := validSigningType_range hs
  obtain ⟨c0, c1⟩ := validCryptoType_range hc
  have hk := (withKeyTypes_eq newCertBuilder s c).trans (if_pos ⟨s0, s1, c0, c1⟩)
  obtain ⟨pl, hpl, hb⟩ := builder_keyTypes_build s c _ hk
  rw [buildKeyTypePayload_eq, if_pos ⟨s0, s1, c0, c1⟩] at hpl
  cases hpl
  refine ⟨_, hk, ?_, Int.toNat_of_nonneg s0, Int.toNat_of_nonneg c0⟩
  rw [hb, newCertWithType_key _ (keyTypePayload_length s c)]

/-- …and it accepts every pair within those stated key types, and only those. -/
theorem keyCert_withTypes_accepts_iff (s c : Int) :
    (newKeyCertWithTypes s c).isSome ↔ (validSigningType s = true ∧ validCryptoType c = true) := by
  rw [newKeyCertWithTypes_eq]
  split
  · exact ⟨fun _ => ‹_›, fun _ => rfl⟩
  · exact ⟨nofun, fun h => absurd h ‹_›⟩

/-- The other branch of that domain: outside the implemented/experimental codes (witness: the reserved GOST code 9)
    `NewKeyCertificateWithTypes` refuses while the builder and `BuildKeyTypePayload`, whose stated domain is the
    whole 0..65535 range, accept. -/
theorem keyCert_withTypes_builder_domain_differs :
    newKeyCertWithTypes 9 4 = none ∧ (buildKeyTypePayload 9 4).isSome ∧
      ∃ cb, newCertBuilder.withKeyTypes 9 4 = some cb ∧ cb.build.isSome := by
  refine ⟨by decide, by decide, _, rfl, by decide⟩

example : ∃ kc, newKeyCertWithTypes 7 4 = some kc := by
  have := (keyCert_withTypes_accepts_iff 7 4).2 ⟨by decide, by decide⟩
  exact Option.isSome_iff_exists.mp this
example : ∃ cb, newCertBuilder.withType 3 = some cb := ⟨_, rfl⟩
example : ∃ cb, newCertBuilder.withKeyTypes 7 4 = some cb := ⟨_, rfl⟩

end I2P.Props.C19b
