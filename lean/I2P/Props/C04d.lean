import I2P.Proofs.CheckedLemmas3Meta
/-! # C04 (part d) — `meta_leaseset.ReadMetaLeaseSet` cannot panic

Property theorems only; the checked mirrors are in `I2P/Checked3Meta.lean` (one Lean function per Go function
of `meta_leaseset/meta_leaseset.go`: `ReadMetaLeaseSet`, `parseDestinationAndHeader`, `validateMinSize`,
`parseDestinationField`, `validateHeaderDataSize`, `parseHeaderFields`, `parseOfflineSignature`,
`parseOptionsMapping`, `fatalMappingError`, `parseEntries`, `validateEntryCount`, `parseSingleEntry`,
`validateEntryMinSize`, `parseEntryFixedFields`, `validateEntryType`, `parseEntryProperties`,
`parseSignatureAndFinalize`), the helper lemmas in `I2P/Proofs/CheckedLemmas3Meta.lean`.

* `readMetaC_refines` — on EVERY input the checked mirror returns `.ok`; it accepts exactly the inputs the
  pure model `Structs.readMeta` accepts, and then the parsed structure re-serialises (`MLS.bytes`, the
  transcription of `MetaLeaseSet.Bytes()`) to the bytes the pure model returns, with the same remainder;
* `readMetaC_no_panic` — the corollary that it never returns `.error _`;
* `readMetaS_any_slice` — the same for an arbitrary Go slice (any underlying array, offset and capacity);
* `meta_entries_loop_bounds`, `meta_entries_loop_iterations`, `metaParseEntriesC_count` — the entries loop:
  number of iterations = the count byte, `1 ≤ count ≤ 16`, every iteration consumes at least 40 bytes.

The reader does not call `Validate()`, and does not parse revocations (the Go struct has none). -/
namespace I2P.Props.C04
open I2P.Kac I2P.Structs I2P.Checked
attribute [local congr] Go.bind_congr

/-! ### how a stored Mapping is put on the wire -/

/-- the pure `MappingC.metaDataP` is what the checked `(*Mapping).Data()` returns: it never panics on a stored
    mapping -/
theorem metaMapping_data (m : MappingC) : mappingDataC (some m) = .ok m.metaDataP := by
  rw [mappingDataC_eq, MappingC.metaDataP, values_data]

/-- `MappingC.metaWire` is the Go expression `if len(m.Values()) > 0 { m.Data() } else { 00 00 }` evaluated with the
    checked `Data()` -/
theorem metaMapping_wire (m : MappingC) :
    ∃ d, mappingDataC (some m) = .ok d ∧ m.metaWire = if m.values.length > 0 then d.getD [] else [0, 0] :=
  ⟨_, metaMapping_data m, rfl⟩

/-- for a mapping that came out of `ReadMapping` on `w`, the wire form is the `readOptions _ true` rule of the
    pure model: `0000` when no pair was stored, `Data()` of the pure result otherwise -/
theorem metaMapping_wire_of_read (s : Sl) :
    ∃ m rem errs, readMappingS s = .ok (m, rem, errs) ∧
      m.metaWire = if ((Mapping.readMapping s.data).vals.getD []).length = 0 then [0, 0]
               else (Mapping.data (Mapping.readMapping s.data)).getD [] := by
  obtain ⟨m, rem, h, hb, hl, -⟩ := readMappingS_stream s
  exact ⟨m, rem, _, h, metaWire_of_read hb hl⟩

/-- `fatalMappingError` returns nil exactly for the error lists the pure model accepts (nothing but the
    trailing-data warning) -/
theorem metaFatalMappingError_accepted (errs : List Mapping.E) :
    (metaFatalMappingErrorC (errs.map .m)).isNone = errs.all (· == .beyond) := metaFatalMappingErrorC_map errs

/-! ### the parse helpers -/

/-- `parseDestinationAndHeader`: never panics; on success the destination pointer is set and destination,
    published, expires, flags and the remainder are those of the pure model's first lines -/
theorem metaParseDestinationAndHeaderC_refines (mls : MLS) (s : Sl) :
    ∃ r, metaParseDestinationAndHeaderC mls s = .ok r ∧
      match r with
      | none => s.len < 505 ∨ readDestination s.data = none ∨
          ∃ k r0, readDestination s.data = some (k, r0) ∧ r0.length < 8
      | some (l, rem) => 505 ≤ s.len ∧ ∃ k r0, readDestination s.data = some (k, r0) ∧ 8 ≤ r0.length ∧
          l = { mls with destination := some k, published := beVal (r0.take 4),
                         expires := beVal ((r0.drop 4).take 2), flags := beVal ((r0.drop 6).take 2) } ∧
          rem.data = r0.drop 8 := by
  unfold metaParseDestinationAndHeaderC metaParseDestinationFieldC
  by_cases h : s.len < 505
  · simp only [go, h]
  rcases refines_cases (readDestinationS_spec s) with ⟨hc, hp⟩ | ⟨⟨k, rem⟩, hc, hp⟩ <;> simp only [go, h, hc, hp]
  by_cases h8 : rem.len < 8
  · simp only [go, h8]
    exact .inr ⟨k, rem.data, rfl, by rwa [Sl.data_length]⟩
  · simp only [go, h8, metaParseHeaderFieldsC_eq _ rem (Nat.le_of_not_lt h8)]
    exact ⟨Nat.le_of_not_lt h, k, rem.data, rfl, by rw [Sl.data_length]; exact Nat.le_of_not_lt h8, rfl, rfl⟩

/-- `parseOfflineSignature`: never panics once the destination is set (it dereferences it), and computes the
    `off` value of the pure model; the `uint16(…)` conversion is the identity for a parsed destination -/
theorem metaParseOfflineSignatureC_refines (mls : MLS) (s : Sl) (k : KeysAndCert) (hd : mls.destination = some k)
    (ho : mls.offlineSignature = none) (d r : Bytes) (hk : readDestination d = some (k, r)) :
    ∃ res, metaParseOfflineSignatureC mls s = .ok res ∧
      match res with
      | none => (if mls.flags % 2 = 1 then readOffSig s.data k.kc.spk else some ([], s.data, k.kc.spk)) = none
      | some (l, rem) => ∃ oo : Option OffSig, l = { mls with offlineSignature := oo } ∧
          (oo.isSome ↔ mls.flags % 2 = 1) ∧
          (if mls.flags % 2 = 1 then readOffSig s.data k.kc.spk else some ([], s.data, k.kc.spk)) =
            some (offBytes oo, rem.data, offSigT oo k.kc.spk) := by
  unfold metaParseOfflineSignatureC MLS.hasOfflineKeys
  by_cases hf : mls.flags % 2 = 1
  · simp only [go, hf, hd, deref, readDestination_spk16 hk]
    rcases refines_cases (readOffSigS_spec s k.kc.spk) with ⟨hc, hp⟩ | ⟨⟨o, rem⟩, hc, hp⟩ <;> simp only [go, hc, hp]
    exact ⟨some o, rfl, by simp, rfl⟩
  · simp only [go, hf]
    exact ⟨none, by rw [← ho], by simp, rfl⟩

/-- `parseOptionsMapping` (`common.ReadMapping` + `fatalMappingError`): never panics, accepts exactly when the
    pure `readOptions _ true` does, stores a mapping whose wire form is the pure model's bytes, and returns the
    pure model's remainder -/
theorem metaParseOptionsMappingC_refines (mls : MLS) (s : Sl) :
    ∃ r, metaParseOptionsMappingC mls s = .ok r ∧
      r.map (fun p => (p.1.options.metaWire, p.2.data)) = readOptions s.data true ∧
      ∀ l rem, r = some (l, rem) → ∃ m, l = { mls with options := m } := by
  unfold metaParseOptionsMappingC
  obtain ⟨m, rem, errs, h, ⟨⟨e, hf⟩, hp⟩ | ⟨hf, hp⟩⟩ := metaReadMapping_fatal s <;> simp only [go, h, hf, hp]
  · simp
  · rintro l r ⟨⟩; exact ⟨m, rfl⟩

/-- `parseSignatureAndFinalize`: never panics once the destination is set (both branches dereference a
    pointer) -/
theorem metaParseSignatureAndFinalizeC_refines (mls : MLS) (s : Sl) (k : KeysAndCert) (hd : mls.destination = some k)
    (hoff : mls.offlineSignature.isSome ↔ mls.flags % 2 = 1) :
    ∃ r, metaParseSignatureAndFinalizeC mls s = .ok r ∧
      match r with
      | none => readSig s.data (offSigT mls.offlineSignature k.kc.spk) = none
      | some (l, rem) => ∃ sb, l = { mls with signature := sb } ∧
          readSig s.data (offSigT mls.offlineSignature k.kc.spk) = some (sb, rem.data) := by
  unfold metaParseSignatureAndFinalizeC MLS.hasOfflineKeys
  -- whichever pointer the `if` dereferences, the type read is `offSigT …`
  refine bind_spec (P := fun t : Int => t = (offSigT mls.offlineSignature k.kc.spk : Nat)) ?_ ?_
  · cases ho : mls.offlineSignature with
    | none => simp [hd, deref, offSigT]
    | some o => rw [ho] at hoff; simp [hoff.mp rfl, deref, offSigT]
  rintro _ rfl
  rcases refines_cases (readSigS_spec s (offSigT mls.offlineSignature k.kc.spk)) with
    ⟨hc, hp⟩ | ⟨⟨sb, rem⟩, hc, hp⟩ <;> simp only [go, hc, hp]
  exact ⟨sb, rfl, rfl⟩

/-! ### the entries loop

The loop is a structural recursion on a fuel argument (termination is by construction); the ghost counter
`n` in its result is the number of loop bodies (`parseSingleEntry` calls) executed. -/

/-- one loop body (`parseSingleEntry`), for ANY index argument: it never panics unless the indexed store
    `mls.entries[entryIndex] = entry` is out of range, which `metaParseSingleEntryC_in_range` excludes for the
    indices the loop uses -/
theorem metaParseSingleEntryC_panics_only_on_store (mls : MLS) (i : Int) (s : Sl) (e : Panic)
    (h : metaParseSingleEntryC mls i s = .error e) : e = .indexOOB ∧ ¬ (0 ≤ i ∧ i < mls.entries.length) := by
  obtain ⟨hc, -⟩ | ⟨m, rem, -, -, hc⟩ := metaParseSingleEntryC_cases mls i s <;> rw [hc] at h
  · cases h
  · unfold setAt at h
    split at h
    · cases h
    · rename_i hi
      cases h
      exact ⟨rfl, hi⟩

/-- for an index inside `mls.entries` (the loop only uses `0 … numEntries-1` on a slice of `numEntries`
    elements) the loop body never panics -/
theorem metaParseSingleEntryC_in_range (mls : MLS) (i : Nat) (s : Sl) (hi : i < mls.entries.length) :
    ∃ r, metaParseSingleEntryC mls i s = .ok r := by
  cases h : metaParseSingleEntryC mls i s with
  | ok r => exact ⟨r, rfl⟩
  | error e =>
    exact absurd ⟨Int.natCast_nonneg i, Int.ofNat_lt.mpr hi⟩ (metaParseSingleEntryC_panics_only_on_store mls i s e h).2

/-- every successful loop body consumes at least 40 bytes: hash (32), type (1), expires (4), cost (1) and the
    two size bytes of the properties mapping -/
theorem metaParseSingleEntryC_consumes_40 (mls : MLS) (i : Int) (s : Sl) (l : MLS) (rem : Sl)
    (h : metaParseSingleEntryC mls i s = .ok (some (l, rem))) : rem.len + 40 ≤ s.len := by
  obtain ⟨hc, -⟩ | ⟨m, rem', hle, -, hc⟩ := metaParseSingleEntryC_cases mls i s <;> rw [hc] at h
  · cases h
  · obtain ⟨es, -, h⟩ := bind_eq_ok.mp h
    cases h; exact hle

/-- entries loop, for arbitrary arguments: at most `fuel` iterations, never past `numEntries`, and every
    iteration strictly shortens the remaining input (by at least 40 bytes) -/
theorem meta_entries_loop_bounds (fuel : Nat) (i numEntries : Int) (mls : MLS) (s : Sl) (l : MLS) (rem : Sl) (n : Nat)
    (h : metaParseEntriesLoopC fuel i numEntries mls s = .ok (some (l, rem, n))) :
    n ≤ fuel ∧ (n = 0 ∨ i + n ≤ numEntries) ∧ rem.len + 40 * n ≤ s.len ∧ 40 * n ≤ s.data.length := by
  suffices n ≤ fuel ∧ (n = 0 ∨ i + n ≤ numEntries) ∧ rem.len + 40 * n ≤ s.len from
    ⟨this.1, this.2.1, this.2.2, by rw [Sl.data_length]; exact Nat.le_trans (Nat.le_add_left _ _) this.2.2⟩
  induction fuel generalizing i mls s l rem n with
  | zero => cases h; exact ⟨Nat.le_refl 0, .inl rfl, Nat.le_refl _⟩
  | succ fuel ih =>
    unfold metaParseEntriesLoopC at h
    by_cases hc : i < numEntries
    case neg => simp only [hc, go] at h; cases h; exact ⟨Nat.zero_le _, .inl rfl, Nat.le_refl _⟩
    simp only [hc, go, bind_eq_ok] at h
    obtain ⟨_ | ⟨l1, s1⟩, hp, h⟩ := h
    · cases h
    simp only [bind_eq_ok] at h
    obtain ⟨_ | ⟨l2, rem2, n2⟩, hq, h⟩ := h <;> cases h
    have := metaParseSingleEntryC_consumes_40 _ _ _ _ _ hp
    obtain ⟨b1, b2, b3⟩ := ih _ _ _ _ _ _ hq
    exact ⟨Nat.succ_le_succ b1, .inr (by omega), by omega⟩

/-- the loop as `parseEntries` runs it (`fuel = numEntries = len(mls.entries) = c`, from index 0): it never
    panics, and when it succeeds it executed exactly `c` bodies, stored `c` entries and consumed at least
    `40·c` bytes -/
theorem meta_entries_loop_iterations (c : Nat) (mls : MLS) (s : Sl) (hc : mls.entries.length = c) :
    ∃ r, metaParseEntriesLoopC c 0 (c : Int) mls s = .ok r ∧
      ∀ l rem n, r = some (l, rem, n) → n = c ∧ l.entries.length = c ∧ rem.len + 40 * c ≤ s.len := by
  obtain ⟨r, hr, hm⟩ := metaParseEntriesLoopC_spec c c 0 mls s (Nat.zero_add c) hc
  refine ⟨r, hr, ?_⟩
  rintro l rem n rfl
  obtain ⟨rfl, hcons, es, hes, rfl, -⟩ := hm
  exact ⟨rfl, by simp [hes], hcons⟩

/-- `parseEntries`: the number of entries read is the count byte, `1 ≤ count ≤ 16 ≤ 255`, it is also what
    `numEntries` records, and `1 + 40·count` bytes at least were consumed -/
theorem metaParseEntriesC_count (mls : MLS) (s : Sl) (l : MLS) (rem : Sl)
    (h : metaParseEntriesC mls s = .ok (some (l, rem))) :
    ∃ ne : UInt8, s.data.head? = some ne ∧ l.numEntries = ne ∧ l.entries.length = ne.toNat ∧
      1 ≤ ne.toNat ∧ ne.toNat ≤ 16 ∧ ne.toNat ≤ 255 ∧ rem.len + 1 + 40 * ne.toNat ≤ s.len := by
  obtain ⟨r, hr, hm⟩ := metaParseEntriesC_spec mls s
  rw [h] at hr
  cases hr
  obtain ⟨ne, es, hes, h1, h16, hl, hlen, hh, -⟩ := hm
  refine ⟨ne, hh, by rw [hl], by rw [hl]; exact hes, h1, h16, by omega, by omega⟩

/-- `parseEntries` never panics and computes the entry lines of the pure model -/
theorem metaParseEntriesC_refines (mls : MLS) (s : Sl) :
    ∃ r, metaParseEntriesC mls s = .ok r ∧
      r.map (fun p => (p.1.entries.flatMap MetaEntry.bytes, p.2.data)) = metaEntriesPure s.data := by
  obtain ⟨r, hr, hm⟩ := metaParseEntriesC_spec mls s
  refine ⟨r, hr, ?_⟩
  cases r with
  | none => exact hm.symm
  | some p =>
    obtain ⟨l, rem⟩ := p
    obtain ⟨ne, es, -, -, -, rfl, -, -, hp⟩ := hm
    rw [hp]; rfl

/-- `metaEntriesPure` is literally the entry-count / entries part of the pure `readMeta` (`metaCont`) -/
theorem readMeta_entries_piece (hb r : Bytes) (sigT : Nat) :
    metaCont hb r sigT =
      match metaEntriesPure r with
      | none => none
      | some (eb, r1) =>
        match readSig r1 sigT with
        | none => none
        | some (sb, r2) => some (hb ++ [r.headD 0] ++ eb ++ sb, r2) := by
  unfold metaCont metaEntriesPure
  cases r with
  | nil => rfl
  | cons ne r =>
    simp only []
    split
    · rfl
    · cases readEntries ne.toNat r [] <;> rfl

/-! ### the reader -/

/-- `ReadMetaLeaseSet` on an arbitrary Go slice (any underlying array, offset and capacity): never panics;
    succeeds exactly when the pure model does, and then `Bytes()` of the parsed value succeeds and returns the
    pure model's bytes, with the pure model's remainder -/
theorem readMetaS_any_slice (s : Sl) :
    ∃ r, readMetaS s = .ok r ∧ vMeta r = (readMeta s.data).map (fun q => (some q.1, q.2)) := by
  rw [readMeta_eq]
  unfold readMetaS withHdr offStage
  refine bind_spec (metaParseDestinationAndHeaderC_refines {} s) ?_
  rintro (_ | ⟨l1, s1⟩) hm1 <;> simp only [] at hm1
  · rcases hm1 with h | h | ⟨k, r0, h, h8⟩
    · simp only [go, vMeta, h]
    · simp only [go, vMeta, h]
    · obtain ⟨db, hdb, -⟩ := readDestination_isSub.consumed h
      simp only [go, vMeta, h, hdb, h8]
  obtain ⟨h505, k, r0, hp, h8, rfl, hs1⟩ := hm1
  -- a parsed destination serialises: the pure model's `k.bytes = none` branch is not taken
  obtain ⟨db, hdb, -⟩ := readDestination_isSub.consumed hp
  simp only [go, vMeta, Nat.not_lt_of_le h505, hp, hdb, Nat.not_lt_of_le h8, ← hs1]
  refine bind_spec (metaParseOfflineSignatureC_refines _ _ k rfl rfl _ _ hp) ?_
  rintro (_ | ⟨l2, s2⟩) hm2 <;> simp only [go] at hm2
  · simp only [go, hm2]
  obtain ⟨oo, rfl, hoo, hoff⟩ := hm2
  obtain ⟨m, s3, errs, hm, ⟨⟨e, hf⟩, hpo⟩ | ⟨hf, hpo⟩⟩ := metaReadMapping_fatal s2 <;>
    simp only [go, hoff, metaParseOptionsMappingC, hm, hf, hpo]
  rw [readMeta_entries_piece]
  refine bind_spec (metaParseEntriesC_spec _ _) ?_
  rintro (_ | ⟨l4, s4⟩) hm4 <;> simp only [] at hm4
  · simp only [go, hm4]
  obtain ⟨ne, es, -, -, -, rfl, -, hh4, hp4⟩ := hm4
  simp only [go, hp4]
  refine (metaParseSignatureAndFinalizeC_refines _ s4 k rfl hoo).imp fun r5 ⟨hr5, hm5⟩ => ⟨hr5, ?_⟩
  rcases r5 with _ | ⟨l5, s5⟩ <;> simp only [] at hm5
  · simp only [go, hm5]
  obtain ⟨sb, rfl, hsig⟩ := hm5
  simp only [go, hsig, MLS.bytes, hdb, hdr_split r0 h8, head?_headD hh4]
  cases oo <;> simp [offBytes]

/-- `ReadMetaLeaseSet` on a caller buffer (slice with `cap = len`, the most panic-prone view): never panics;
    the result is `some` exactly when the pure `readMeta` accepts, and then the parsed value re-serialises
    (`Bytes()` succeeds: the pure model's `k.bytes = none` branch is unreachable for a parsed destination) to
    exactly the bytes the pure model returns, with the same remainder -/
theorem readMetaC_refines (w : Bytes) :
    ∃ r, readMetaC w = .ok r ∧
      r.map (fun p => (p.1.bytes, p.2)) = (readMeta w).map (fun q => (some q.1, q.2)) := by
  obtain ⟨r, hr, hv⟩ := readMetaS_any_slice (.ofBytes w)
  refine ⟨_, onBytes_ok hr, ?_⟩
  rw [Sl.ofBytes_data] at hv
  rw [← hv]; cases r <;> rfl

/-- the same in the shape of `readELSC_refines`: the view "re-serialised bytes and remainder" of the result is
    the pure model's result -/
theorem readMetaC_refines_view (w : Bytes) :
    ∃ r, readMetaC w = .ok r ∧ r.bind (fun p => p.1.bytes.map (fun b => (b, p.2))) = readMeta w := by
  obtain ⟨r, hr, hv⟩ := readMetaC_refines w
  refine ⟨r, hr, ?_⟩
  rcases refines_bytes_cases hv with ⟨rfl, hp⟩ | ⟨m, b, rem, rfl, hb, hp⟩ <;> rw [hp]
  · rfl
  · simp [hb]

theorem readMetaC_no_panic (w : Bytes) : ∃ r, readMetaC w = .ok r := by
  obtain ⟨r, h, -⟩ := readMetaC_refines w; exact ⟨r, h⟩

/-- whatever `ReadMetaLeaseSet` returns without error can be serialised again -/
theorem readMetaC_serialisable (w : Bytes) (m : MLS) (rem : Bytes) (h : readMetaC w = .ok (some (m, rem))) :
    ∃ b, m.bytes = some b ∧ readMeta w = some (b, rem) := by
  obtain ⟨r, hr, hv⟩ := readMetaC_refines w
  rcases refines_bytes_cases hv with ⟨rfl, -⟩ | ⟨m', b, rem', rfl, hb, hp⟩ <;> cases hr.symm.trans h
  exact ⟨b, hb, hp⟩

/-- the reader accepts exactly the inputs of the pure model -/
theorem readMetaC_accepts_iff (w : Bytes) :
    (∃ m rem, readMetaC w = .ok (some (m, rem))) ↔ (readMeta w).isSome := by
  obtain ⟨r, hr, hv⟩ := readMetaC_refines w
  rcases refines_bytes_cases hv with ⟨rfl, hp⟩ | ⟨m, b, rem, rfl, -, hp⟩ <;> simp [hr, hp]

/-- the statements are not vacuous: the example MetaLeaseSet of `StructLemmas` (one entry, no offline
    signature, empty options) is accepted and round-trips -/
example : ∃ m, readMetaC exMeta = .ok (some (m, [])) ∧ m.bytes = some exMeta := by
  obtain ⟨r, hr, hv⟩ := readMetaC_refines exMeta
  rw [exMeta_reads] at hv
  obtain ⟨⟨m, rem⟩, rfl, he⟩ := Option.map_eq_some_iff.mp hv
  obtain ⟨hb, rfl⟩ := Prod.mk.inj he
  exact ⟨m, hr, hb⟩

/-! ### the guards are load-bearing

The checked primitives really detect Go's run-time errors: each helper DOES panic when it is called without
the check that its caller performs first.  (These are not defects: `ReadMetaLeaseSet` always performs the
checks; the examples show that the no-panic theorems above are not vacuous.) -/

/-- `parseEntryFixedFields` without `validateEntryMinSize`: on 10 bytes `data[:32]` is out of range … -/
example : metaParseEntryFixedFieldsC {} (.ofBytes (List.replicate 10 0)) = .error .sliceOOB := by rfl
/-- … and on 37 bytes the cost byte `data[0]` is -/
example : metaParseEntryFixedFieldsC {} (.ofBytes (List.replicate 37 0)) = .error .indexOOB := by rfl
/-- `parseHeaderFields` without `validateHeaderDataSize` -/
example : metaParseHeaderFieldsC {} (.ofBytes (List.replicate 7 0)) = .error .sliceOOB := by rfl
/-- `parseOfflineSignature` / `parseSignatureAndFinalize` before the destination is set: nil dereference -/
example : metaParseOfflineSignatureC { flags := 1 } (.ofBytes []) = .error .nilDeref := by rfl
example : metaParseSignatureAndFinalizeC {} (.ofBytes []) = .error .nilDeref := by rfl
set_option maxRecDepth 20000 in
/-- `parseSingleEntry` before `mls.entries = make(…)`: the indexed store is out of range -/
example : metaParseSingleEntryC {} 0 (.ofBytes exEntry) = .error .indexOOB := by rfl

end I2P.Props.C04
