import I2P.Checked
/-! Checked ("can it panic?") mirrors, third part: `lease_set/utils.go` (`ReadLeaseSet` and every helper it
    calls), `key_certificate.KeyCertificateFromCertificate`, `signature.NewSignatureFromBytes`, and the two
    go-i2p/crypto constructors `ReadLeaseSet` hands key bytes to (`elg.NewElgPublicKey`,
    `dsa.NewDSAPublicKey`: a length check, a range check on the big-endian value, a copy).

    Same conventions as `I2P/Checked.lean`: one Lean function per Go function (the Go name is in the doc
    comment), every index expression, slice expression, `make` and pointer dereference goes through a
    checked primitive.  The functions of package `lease_set` carry the prefix `ls` because `Checked.lean`
    already uses `parseLeasesC`, … for package `lease_set2`.  `Props/C04c.lean` proves that `ReadLeaseSet`
    never returns `.error _` and returns what the pure model `Structs.readLeaseSet` returns.  Core-only. -/

namespace I2P.Checked
open I2P I2P.Spec I2P.Kac

/-! ### pointers into a parsed Destination -/

/-- `destination.Destination`: a struct wrapping `*keys_and_cert.KeysAndCert`, nil in the zero value
    `Destination{}` (`KeysAndCert.KeyCertificate`, the second pointer on the path to the certificate, has
    no nil state in `Kac.KeysAndCert`: `ReadKeysAndCert` always sets it) -/
abbrev Dest := Option KeysAndCert

/-- `(*KeysAndCert).Certificate()` through the embedded pointer of a `Destination`: nil-safe, returns
    `&keys_and_cert.KeyCertificate.Certificate` -/
def destCertificateC (dest : Dest) : Option Cert := dest.map (·.kc.cert)

/-- `(*Certificate).Type()` on a pointer that may be nil: `IsValid()` is false for a nil receiver, so
    the call is an error (`none`), not a dereference -/
def certTypeP (c : Option Cert) : Go (Option Int) :=
  match c with
  | none => return none
  | some c => certTypeC c

/-! ### key_certificate/key_certificate_struct.go: `KeyCertificateFromCertificate` and three accessors -/

/-- `logExtractedKeyTypes`: evaluates `spkType.Int()` and `cpkType.Int()` -/
def logExtractedKeyTypesC (spkType cpkType : Option Sl) : Go Unit := do
  let _ ← integerIntC' spkType
  let _ ← integerIntC' cpkType
  return ()

/-- `key_certificate.KeyCertificateFromCertificate(cert)`; `none` = error.  `validateKeyCertificateType`
    calls `cert.Type()`, which is an error for a nil `cert`; `buildKeyCertificate` evaluates `*cert` -/
def keyCertificateFromCertificateC (cert : Option Cert) : Go (Option KeyCert) := do
  match cert with
  | none => return none                                -- validateKeyCertificateType → cert.Type() → !IsValid()
  | some c =>
  if !(← validateKeyCertificateTypeC c) then return none else
  match ← certDataC c with
  | none => return none
  | some certData =>
  if !(← validateKeyCertificateDataLengthC certData) then return none else
  let (spkType, cpkType) ← extractKeyTypesC certData
  logExtractedKeyTypesC spkType cpkType
  return some (← buildKeyCertificateC (← deref cert) spkType cpkType)

/-- `KeyCertificate.SigningPublicKeyType()` (`Kac.KeyCert.spk` already is `SpkType.Int()`) -/
def signingPublicKeyTypeC (kc : KeyCert) : Int := kc.spk

/-- `KeyCertificate.SigningPublicKeySize()`: `SigningKeySizes[spkType].SigningPublicKeySize`, 0 when the
    map has no entry -/
def signingPublicKeySizeC (kc : KeyCert) : Int := sigPubSize kc.spk

/-- `KeyCertificate.SignatureSize()`: `SigningKeySizes[key_type].SignatureSize`, 0 when the map has no entry -/
def signatureSizeC (kc : KeyCert) : Int := sigLen kc.spk

/-! ### go-i2p/crypto: `elg.NewElgPublicKey`, `dsa.NewDSAPublicKey`

    Both check the length, then the value `new(big.Int).SetBytes(data)` (the pure predicates
    `Structs.elgValid` / `Structs.dsaValid`, exactly as the pure model uses them), then copy the bytes
    into a fresh array. -/

/-- `elg.NewElgPublicKey(data)`: returns a pointer, nil (`none`) together with every error -/
def newElgPublicKeyC (data : Sl) : Go (Option Bytes) := do
  if data.ilen ≠ 256 then return none else
  if !Structs.elgValid data.data then return none else
  let key ← mk 256                                     -- var key ElgPublicKey
  let key := copy key data
  return some key.data

/-- `dsa.NewDSAPublicKey(data)`; `none` = error -/
def newDSAPublicKeyC (data : Sl) : Go (Option Bytes) := do
  if data.ilen ≠ 128 then return none else
  if !Structs.dsaValid data.data then return none else
  let key ← mk 128                                     -- var key DSAPublicKey
  let key := copy key data
  return some key.data

/-! ### signature/signature_struct.go -/

/-- `signature.NewSignatureFromBytes(data, sigType)`: the pair is `Signature{data, sigType}`; `none` = error -/
def newSignatureFromBytesC (data : Sl) (sigType : Int) : Go (Option (Bytes × Int)) := do
  match getSignatureLengthC sigType with
  | none => return none
  | some expectedLen =>
  if data.ilen ≠ expectedLen then return none else
  let sigData ← mk data.ilen
  let sigData := copy sigData data
  return some (sigData.data, sigType)

/-! ### lease_set/utils.go -/

/-- the fields of `lease_set.LeaseSet` -/
structure LS where
  dest : Dest := none
  encryptionKey : Bytes := []                           -- `encryptionKey.Bytes()`
  signingKey : Bytes := []                              -- `signingKey.Bytes()`
  leaseCount : Int := 0
  leases : List Bytes := []
  signature : Bytes := []                               -- `signature.data`
  signatureType : Int := 0                              -- `signature.sigType`

/-- what `LeaseSet.Bytes()` emits (the serialiser itself is outside C04); `none` = error
    (`dest.KeysAndCert.Bytes()` failed); `NewIntegerFromInt(leaseCount, 1)` is `beEnc 1` for `0 … 255` -/
def LS.bytes (l : LS) : Option Bytes :=
  (l.dest.bind KeysAndCert.bytes).map fun db =>
    db ++ l.encryptionKey ++ l.signingKey ++ beEnc 1 l.leaseCount.toNat ++ l.leases.flatten ++ l.signature

/-- `validateDestinationMinSize(dataLen)`: `true` = no error -/
def lsValidateDestinationMinSizeC (dataLen : Int) : Bool := !(decide (dataLen < 387))

/-- `parseCertificateFromLeaseSet(data, certDataStart)`: (kind, certLength); `none` = error.
    `ReadCertificate` returns a non-nil certificate whenever it returns no error. -/
def lsParseCertificateFromLeaseSetC (data : Sl) (certDataStart : Int) : Go (Option (Int × Int)) := do
  let certData ← sliceFrom data certDataStart
  match ← readCertS certData with
  | none => return none
  | some (cert, _) =>
  match ← certTypeC cert with
  | none => return none
  | some kind =>
  match ← certLengthFieldC cert with
  | none => return none
  | some certLength => return some (kind, certLength)

/-- `calculateDestinationLength(certDataStart, certLength)` -/
def lsCalculateDestinationLengthC (certDataStart certLength : Int) : Int :=
  let certTotalLength := 3 + certLength
  let destinationLength := certDataStart + certTotalLength
  destinationLength

/-- `validateDestinationDataSize(dataLen, destinationLength)`: `true` = no error -/
def lsValidateDestinationDataSizeC (dataLen destinationLength : Int) : Bool := !(decide (dataLen < destinationLength))

/-- `extractDestinationFromData(data, destinationLength)`; `none` = error -/
def lsExtractDestinationFromDataC (data : Sl) (destinationLength : Int) : Go (Option (Dest × Sl)) := do
  let destinationData ← sliceTo data destinationLength
  match ← readDestinationS destinationData with
  | none => return none
  | some (dest, _) =>
  let remainder ← sliceFrom data destinationLength
  return some (some dest, remainder)

/-- `lease_set.ReadDestinationFromLeaseSet(data)`; `none` = error -/
def readDestinationFromLeaseSetS (data : Sl) : Go (Option (Dest × Sl)) := do
  if !lsValidateDestinationMinSizeC data.ilen then return none else
  let certDataStart : Int := 384
  match ← lsParseCertificateFromLeaseSetC data certDataStart with
  | none => return none
  | some (_kind, certLength) =>
  let destinationLength := lsCalculateDestinationLengthC certDataStart certLength
  if !lsValidateDestinationDataSizeC data.ilen destinationLength then return none else
  lsExtractDestinationFromDataC data destinationLength

/-- `validateLeaseSetDataLength(data)`: `true` = no error -/
def lsValidateLeaseSetDataLengthC (data : Sl) : Bool := !(decide (data.ilen < 387))

/-- `parseEncryptionKey(data)`; `*encryptionKeyPtr` dereferences the constructor's result -/
def lsParseEncryptionKeyC (data : Sl) : Go (Option (Bytes × Sl)) := do
  if data.ilen < 256 then return none else
  let encKeyBytes ← sliceTo data 256
  let encryptionKeyPtr ← newElgPublicKeyC encKeyBytes
  if encryptionKeyPtr.isNone then return none else      -- err != nil
  let remainder ← sliceFrom data 256
  return some (← deref encryptionKeyPtr, remainder)

/-- `determineSigningKeySize(cert, kind)`: `keyCert.SigningPublicKeySize()` is reached only with `err == nil`,
    i.e. a non-nil `keyCert` -/
def lsDetermineSigningKeySizeC (cert : Option Cert) (kind : Int) : Go Int := do
  if kind = 5 then
    match ← keyCertificateFromCertificateC cert with
    | some keyCert => return signingPublicKeySizeC keyCert
    | none => return 128
  else return 128

/-- `constructSigningKey(keyData, cert, kind)`: the key's `Bytes()`; `none` = error -/
def lsConstructSigningKeyC (keyData : Sl) (cert : Option Cert) (kind : Int) : Go (Option Bytes) := do
  if kind = 5 then
    match ← keyCertificateFromCertificateC cert with
    | some keyCert => constructSigningPublicKeyC keyCert keyData
    | none => newDSAPublicKeyC keyData                  -- falls through to the default DSA key
  else newDSAPublicKeyC keyData

/-- `parseSigningKey(data, dest)` -/
def lsParseSigningKeyC (data : Sl) (dest : Dest) : Go (Option (Bytes × Sl)) := do
  let cert := destCertificateC dest
  match ← certTypeP cert with
  | none => return none
  | some kind =>
  let sigKeySize ← lsDetermineSigningKeySizeC cert kind
  if data.ilen < sigKeySize then return none else
  match ← lsConstructSigningKeyC (← sliceTo data sigKeySize) cert kind with
  | none => return none
  | some signingKey => return some (signingKey, ← sliceFrom data sigKeySize)

/-- the loop `for i := 0; i < leaseCount; i++` of `extractLeases`, from index `i`; `fuel` is the
    structural recursion argument (`leaseCount - i` suffices).  `var l lease.Lease` is a fresh 44-byte
    array, `data[i*44:(i+1)*44]` a slice expression, `append` extends `leases`.  The second component of
    the result is a ghost counter: the number of loop bodies executed. -/
def lsExtractLeasesLoopC : (fuel : Nat) → (i leaseCount : Int) → List Bytes → Sl → Go (List Bytes × Nat)
  | 0, _, _, leases, _ => return (leases, 0)
  | fuel + 1, i, leaseCount, leases, data => do
    if ¬ (i < leaseCount) then return (leases, 0) else
    let l ← mk 44                                      -- var l lease.Lease
    let l := copy l (← slice data (i * 44) ((i + 1) * 44))
    let leases := leases ++ [l.data]
    let (leases, n) ← lsExtractLeasesLoopC fuel (i + 1) leaseCount leases data
    return (leases, n + 1)

/-- `extractLeases(data, leaseCount)` (`var leases []lease.Lease` is nil) -/
def lsExtractLeasesC (data : Sl) (leaseCount : Int) : Go (List Bytes × Nat) :=
  lsExtractLeasesLoopC leaseCount.toNat 0 leaseCount [] data

/-- `parseLeases(data)`: (leaseCount, leases, remainder); `none` = error -/
def lsParseLeasesC (data : Sl) : Go (Option (Int × List Bytes × Sl)) := do
  if data.ilen < 1 then return none else
  let leaseCount : Int := (← index data 0).toNat
  if leaseCount > 16 then return none else
  let remainder ← sliceFrom data 1
  if remainder.ilen < leaseCount * 44 then return none else
  let (leases, _) ← lsExtractLeasesC remainder leaseCount
  let remainder ← sliceFrom remainder (leaseCount * 44)
  return some (leaseCount, leases, remainder)

/-- `determineSignatureSize(cert, kind)` -/
def lsDetermineSignatureSizeC (cert : Option Cert) (kind : Int) : Go Int := do
  if kind = 5 then
    match ← keyCertificateFromCertificateC cert with
    | some keyCert => return signatureSizeC keyCert
    | none => return 40
  else return 40

/-- `determineSignatureType(cert, kind)` -/
def lsDetermineSignatureTypeC (cert : Option Cert) (kind : Int) : Go Int := do
  if kind = 5 then
    match ← keyCertificateFromCertificateC cert with
    | some keyCert => return signingPublicKeyTypeC keyCert
    | none => return 0
  else return 0

/-- `parseSignature(data, dest)`: (signature, remainder); `none` = error -/
def lsParseSignatureC (data : Sl) (dest : Dest) : Go (Option ((Bytes × Int) × Sl)) := do
  let cert := destCertificateC dest
  match ← certTypeP cert with
  | none => return none
  | some kind =>
  let sigSize ← lsDetermineSignatureSizeC cert kind
  if data.ilen < sigSize then return none else
  let remainder ← sliceFrom data sigSize
  let sigType ← lsDetermineSignatureTypeC cert kind
  match ← newSignatureFromBytesC (← sliceTo data sigSize) sigType with
  | none => return none
  | some sigVal => return some (sigVal, remainder)

/-- `assembleLeaseSetFromParsedData` -/
def lsAssembleLeaseSetFromParsedDataC (dest : Dest) (encryptionKey signingKey : Bytes) (leaseCount : Int)
    (leases : List Bytes) (signature : Bytes × Int) : LS :=
  { dest := dest, encryptionKey := encryptionKey, signingKey := signingKey, leaseCount := leaseCount,
    leases := leases, signature := signature.1, signatureType := signature.2 }

/-- `parseLeaseSetComponents(data)`.  The second component of the result is a GHOST: the remainder that
    `parseSignature` returns and `parseLeaseSetComponents` discards (`signature, _, err := …`); it is kept
    only so that the refinement theorem can speak about the unread bytes. -/
def lsParseLeaseSetComponentsC (data : Sl) : Go (Option (LS × Sl)) := do
  match ← readDestinationFromLeaseSetS data with
  | none => return none
  | some (dest, remainder) =>
  match ← lsParseEncryptionKeyC remainder with
  | none => return none
  | some (encryptionKey, remainder) =>
  match ← lsParseSigningKeyC remainder dest with
  | none => return none
  | some (signingKey, remainder) =>
  match ← lsParseLeasesC remainder with
  | none => return none
  | some (leaseCount, leases, remainder) =>
  match ← lsParseSignatureC remainder dest with
  | none => return none
  | some (signature, unread) =>
  return some (lsAssembleLeaseSetFromParsedDataC dest encryptionKey signingKey leaseCount leases signature, unread)

/-- `lease_set.ReadLeaseSet(data)`; `none` = error; the `Sl` is the ghost of `lsParseLeaseSetComponentsC` -/
def readLeaseSetS (data : Sl) : Go (Option (LS × Sl)) := do
  if !lsValidateLeaseSetDataLengthC data then return none else
  lsParseLeaseSetComponentsC data

/-! ### byte-level entry point: the caller's buffer as a slice with `cap = len` -/

def readLeaseSetC := onBytes readLeaseSetS

end I2P.Checked
