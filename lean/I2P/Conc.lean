/-! # An abstract shared-memory machine (C18)

Locations are natural numbers.  A thread is a list of atomic steps; the machine state is one shared
memory plus, per thread, the steps still to do, a *private* overlay memory (objects the thread allocated
itself: a `writePrivate` makes the location thread-local from then on) and the values it has read so far.
A schedule is a list of thread indices; each element lets that thread perform its next step (an index
that is out of range, or whose thread has finished, is a stutter step).

This is deliberately the smallest machine in which "read-only" can be *stated*: `read` observes the
private overlay first and the shared memory otherwise, `writePrivate` touches only the overlay,
`writeShared` is the only step that changes what other threads can observe.  What a Go function's
instructions are mapped to is the business of `I2P.Props.C18` (Theorem 2 and the effect facts). -/
namespace I2P.Conc

/-- one atomic memory access of a thread -/
inductive Step where
  /-- load from `loc`: the thread's private copy if it has one, the shared memory otherwise -/
  | read (loc : Nat)
  /-- store to an object the thread allocated itself (`new`, `make`, a fresh `append` result, a local) -/
  | writePrivate (loc : Nat) (val : Nat)
  /-- store to memory that other threads can see (receiver fields, backing arrays, package variables) -/
  | writeShared (loc : Nat) (val : Nat)
  deriving DecidableEq, Repr

abbrev Thread := List Step
abbrev Mem := Nat → Nat

def Step.loc : Step → Nat
  | .read l => l
  | .writePrivate l _ => l
  | .writeShared l _ => l

def Step.isSharedWrite : Step → Bool
  | .writeShared _ _ => true
  | _ => false

/-- two steps conflict when they touch the same location and at least one of them is a shared write
    (private writes never conflict: the overlay is per thread) -/
def conflict (a b : Step) : Bool :=
  a.loc == b.loc && (a.isSharedWrite || b.isSharedWrite)

/-- a thread is read-only when it performs no shared write -/
def readOnly (t : Thread) : Prop := ∀ s ∈ t, s.isSharedWrite = false

instance (t : Thread) : Decidable (readOnly t) := by unfold readOnly; infer_instance

def upd {α : Type} (m : Nat → α) (l : Nat) (v : α) : Nat → α := fun x => if x = l then v else m x

/-- per-thread state: pending steps, private overlay, values read so far (oldest first) -/
structure TState where
  todo : List Step
  priv : Nat → Option Nat
  reads : List Nat

def TState.init (t : Thread) : TState := ⟨t, fun _ => none, []⟩

/-- one step of one thread against the shared memory; a finished thread stutters -/
def tstep (s : TState) (mem : Mem) : TState × Mem :=
  match s.todo with
  | [] => (s, mem)
  | .read l :: rest => ({ s with todo := rest, reads := s.reads ++ [(s.priv l).getD (mem l)] }, mem)
  | .writePrivate l v :: rest => ({ s with todo := rest, priv := upd s.priv l (some v) }, mem)
  | .writeShared l v :: rest => ({ s with todo := rest }, upd mem l v)

structure Machine where
  threads : List TState
  mem : Mem

def Machine.init (ts : List Thread) (mem : Mem) : Machine := ⟨ts.map TState.init, mem⟩

/-- the scheduler picks thread `i` -/
def mstep (m : Machine) (i : Nat) : Machine :=
  match m.threads[i]? with
  | none => m
  | some s => { threads := m.threads.set i (tstep s m.mem).1, mem := (tstep s m.mem).2 }

def runMachine (m : Machine) (sched : List Nat) : Machine := sched.foldl mstep m

/-- the values each thread read when the threads are run under `sched` -/
def runInterleaved (ts : List Thread) (sched : List Nat) (mem : Mem) : List (List Nat) :=
  (runMachine (Machine.init ts mem) sched).threads.map (·.reads)

/-- the shared memory after running under `sched` -/
def memAfter (ts : List Thread) (sched : List Nat) (mem : Mem) : Mem :=
  (runMachine (Machine.init ts mem) sched).mem

/-- sequential semantics of a step list from a given overlay and memory: the values read -/
def runSeq : List Step → (Nat → Option Nat) → Mem → List Nat
  | [], _, _ => []
  | .read l :: rest, priv, mem => (priv l).getD (mem l) :: runSeq rest priv mem
  | .writePrivate l v :: rest, priv, mem => runSeq rest (upd priv l (some v)) mem
  | .writeShared l v :: rest, priv, mem => runSeq rest priv (upd mem l v)

/-- the values a thread reads when it runs alone on `mem` -/
def runAlone (t : Thread) (mem : Mem) : List Nat := runSeq t (fun _ => none) mem

/-- a schedule is complete for `ts` when every thread is scheduled at least as often as it has steps -/
def complete (ts : List Thread) (sched : List Nat) : Prop :=
  ∀ i (h : i < ts.length), ts[i].length ≤ sched.count i

instance (ts : List Thread) (sched : List Nat) : Decidable (complete ts sched) := by
  unfold complete; infer_instance

/-- the step the scheduler's choice `i` executes in state `m` (none: a stutter) -/
def executed (m : Machine) (i : Nat) : Option Step := (m.threads[i]?).bind (·.todo.head?)

/-- the trace of executed steps, tagged with the executing thread -/
def trace : Machine → List Nat → List (Nat × Step)
  | _, [] => []
  | m, i :: rest => ((executed m i).map (fun s => (i, s))).toList ++ trace (mstep m i) rest

/-! ## Lemmas -/

/-- what a thread will have read at the end if it runs undisturbed from state `s` on memory `mem` -/
def TState.final (s : TState) (mem : Mem) : List Nat := s.reads ++ runSeq s.todo s.priv mem

/-- no thread has a shared write left to do: the invariant under which every step leaves the memory and every
    thread's `final` as they are -/
def Machine.RO (m : Machine) : Prop := ∀ s ∈ m.threads, readOnly s.todo

theorem tstep_todo_length (s : TState) (mem : Mem) : (tstep s mem).1.todo.length = s.todo.length - 1 := by
  unfold tstep
  split <;> simp_all

theorem tstep_ro {s : TState} (mem : Mem) (h : readOnly s.todo) :
    (tstep s mem).2 = mem ∧ readOnly (tstep s mem).1.todo ∧ (tstep s mem).1.final mem = s.final mem := by
  fun_cases tstep s mem
  case case1 => exact ⟨rfl, h, rfl⟩
  case case4 l v rest heq => exact absurd (h _ (heq ▸ List.mem_cons_self)) (by simp [Step.isSharedWrite])
  -- a read or a private write: what moves from `todo` into `reads` or `priv` is what `runSeq` would do with it
  all_goals
    rename_i heq
    exact ⟨rfl, fun x hx => h x (heq ▸ List.mem_cons_of_mem _ hx), by simp [TState.final, heq, runSeq]⟩

theorem mstep_ro {m : Machine} (i : Nat) (h : m.RO) :
    (mstep m i).mem = m.mem ∧ (mstep m i).RO ∧
      (mstep m i).threads.map (·.final m.mem) = m.threads.map (·.final m.mem) := by
  unfold mstep
  cases hi : m.threads[i]? with
  | none => exact ⟨rfl, h, rfl⟩
  | some s =>
    obtain ⟨hlt, rfl⟩ := List.getElem?_eq_some_iff.mp hi
    obtain ⟨h1, h2, h3⟩ := tstep_ro m.mem (h _ (List.getElem_mem hlt))
    refine ⟨h1, ?_, ?_⟩
    · intro x hx
      rcases List.mem_or_eq_of_mem_set hx with hx | hx
      · exact h x hx
      · rw [hx]; exact h2
    · simp only [List.map_set, h3]
      rw [← List.getElem_map (fun x : TState => x.final m.mem) (h := by simpa using hlt)]
      exact List.set_getElem_self _

theorem run_ro (sched : List Nat) : ∀ {m : Machine}, m.RO →
    (runMachine m sched).mem = m.mem ∧ (runMachine m sched).RO ∧
      (runMachine m sched).threads.map (·.final m.mem) = m.threads.map (·.final m.mem) := by
  induction sched with
  | nil => intro m h; exact ⟨rfl, h, rfl⟩
  | cons i rest ih =>
    intro m h
    obtain ⟨h1, h2, h3⟩ := mstep_ro i h
    obtain ⟨k1, k2, k3⟩ := ih h2
    simp only [runMachine, List.foldl_cons] at *
    refine ⟨k1.trans h1, k2, ?_⟩
    rw [h1] at k3
    exact k3.trans h3

theorem mstep_progress (m : Machine) (i j : Nat) :
    ((mstep m i).threads[j]?).map (·.todo.length) =
      (m.threads[j]?).map (fun s => s.todo.length - (if i = j then 1 else 0)) := by
  unfold mstep
  cases hi : m.threads[i]? with
  | none =>
    by_cases hij : i = j
    · subst hij; simp [hi]
    · simp [hij]
  | some s =>
    simp only [List.getElem?_set]
    by_cases hij : i = j
    · subst hij
      obtain ⟨hlt, heq⟩ := List.getElem?_eq_some_iff.mp hi
      simp [hlt, heq, tstep_todo_length]
    · simp [hij]

theorem run_progress (sched : List Nat) : ∀ (m : Machine) (j : Nat),
    ((runMachine m sched).threads[j]?).map (·.todo.length) =
      (m.threads[j]?).map (fun s => s.todo.length - sched.count j) := by
  induction sched with
  | nil => intro m j; simp [runMachine]
  | cons i rest ih =>
    intro m j
    show ((runMachine (mstep m i) rest).threads[j]?).map (·.todo.length) = _
    have h : (fun s : TState => s.todo.length - rest.count j) = (· - rest.count j) ∘ (·.todo.length) := rfl
    rw [ih, h, ← Option.map_map, mstep_progress, Option.map_map]
    congr 1
    funext s
    simp only [Function.comp, List.count_cons, beq_iff_eq]
    split <;> omega

theorem trace_ro (sched : List Nat) : ∀ {m : Machine}, m.RO →
    ∀ x ∈ trace m sched, x.2.isSharedWrite = false := by
  induction sched with
  | nil => intro m _ x hx; cases hx
  | cons i rest ih =>
    intro m h x hx
    rcases List.mem_append.mp hx with hx | hx
    · obtain ⟨st, hst, rfl⟩ := Option.map_eq_some_iff.mp (Option.mem_toList.mp hx)
      obtain ⟨s, hs, hh⟩ := Option.bind_eq_some_iff.mp hst
      exact h s (List.mem_of_getElem? hs) st (List.mem_of_head? hh)
    · exact ih (mstep_ro i h).2.1 x hx

theorem init_ro {ts : List Thread} (mem : Mem) (h : ∀ t ∈ ts, readOnly t) : (Machine.init ts mem).RO := by
  intro s hs
  simp only [Machine.init, List.mem_map] at hs
  obtain ⟨t, ht, rfl⟩ := hs
  exact h t ht

end I2P.Conc
