import I2P.Checked2
/-! Checked ("can it panic?") mirrors, third part: `meta_leaseset/meta_leaseset.go` —
    `ReadMetaLeaseSet` and every parse helper it calls.

    Same conventions as `I2P/Checked.lean` / `I2P/Checked2.lean`: one Lean function per Go function (the
    Go name is in the doc comment), every index expression, slice expression, `make` and pointer
    dereference goes through a checked primitive.  `Props/C04d.lean` proves that the reader never returns
    `.error _` and that it returns what the pure model `Structs.readMeta` returns.  Core-only. -/

namespace I2P.Checked
open I2P I2P.Spec I2P.Kac

/-! ### how a stored `Mapping` is serialised by `MetaLeaseSet.Bytes()` / `MetaLeaseSetEntry.Bytes()` -/

/-- the value of `(*Mapping).Data()` on a stored mapping (`none` = nil: the size pointer is nil); the checked
    `mappingDataC` returns exactly this (`Props.C04.metaMapping_data`) -/
def MappingC.metaDataP (m : MappingC) : Option Bytes :=
  if m.size.isSome then some (Mapping.dataOf (m.values.map pairData)) else none

/-- `if len(m.Values()) > 0 { append(m.Data()...) } else { append(0x00, 0x00) }` (appending nil appends
    nothing) -/
def MappingC.metaWire (m : MappingC) : Bytes :=
  if m.values.length > 0 then m.metaDataP.getD [] else [0, 0]

/-! ### the parsed structures -/

/-- `MetaLeaseSetEntry` -/
structure MetaEntry where
  hash : Bytes := List.replicate 32 0                    -- [32]byte
  leaseType : UInt8 := 0
  expires : Nat := 0                                     -- uint32
  cost : UInt8 := 0
  properties : MappingC := {}

/-- what `MetaLeaseSetEntry.Bytes()` emits (the serialiser itself is outside C04) -/
def MetaEntry.bytes (e : MetaEntry) : Bytes :=
  e.hash ++ [e.leaseType] ++ beEnc 4 e.expires ++ [e.cost] ++ e.properties.metaWire

/-- the fields of `MetaLeaseSet` (`destination` wraps a pointer: nil until parsed) -/
structure MLS where
  destination : Option KeysAndCert := none
  published : Nat := 0                                   -- uint32
  expires : Nat := 0                                     -- uint16
  flags : Nat := 0                                       -- uint16
  offlineSignature : Option OffSig := none
  options : MappingC := {}
  numEntries : UInt8 := 0
  entries : List MetaEntry := []
  signature : Bytes := []

/-- what `MetaLeaseSet.Bytes()` emits (the serialiser itself is outside C04); `none` = error
    (`KeysAndCert.Bytes()` failed; a nil destination is treated alike) -/
def MLS.bytes (m : MLS) : Option Bytes :=
  match m.destination with
  | none => none
  | some k =>
    match k.bytes with
    | none => none
    | some db =>
      some (db ++ (beEnc 4 m.published ++ beEnc 2 m.expires ++ beEnc 2 m.flags) ++
        (match m.offlineSignature with | none => [] | some o => o.bytes) ++
        m.options.metaWire ++ [m.numEntries] ++ m.entries.flatMap MetaEntry.bytes ++ m.signature)

/-- `HasOfflineKeys()`: `flags & 1 != 0` -/
def MLS.hasOfflineKeys (m : MLS) : Bool := m.flags % 2 = 1

/-! ### destination and header -/

/-- `validateMinSize`: `true` = no error (`META_LEASESET_MIN_SIZE = 505`) -/
def metaValidateMinSizeC (dataLen : Int) : Bool := !(decide (dataLen < 505))

/-- `parseDestinationField`; `none` = error -/
def metaParseDestinationFieldC (mls : MLS) (data : Sl) : Go (Option (MLS × Sl)) := do
  match ← readDestinationS data with
  | none => return none
  | some (dest, rem) => return some ({ mls with destination := some dest }, rem)

/-- `validateHeaderDataSize`: `true` = no error -/
def metaValidateHeaderDataSizeC (dataLen : Int) : Bool :=
  let requiredSize : Int := 4 + 2 + 2
  !(decide (dataLen < requiredSize))

/-- `parseHeaderFields` -/
def metaParseHeaderFieldsC (mls : MLS) (data : Sl) : Go (MLS × Sl) := do
  let published ← beUint32 (← sliceTo data 4)
  let data ← sliceFrom data 4
  let expires ← beUint16 (← sliceTo data 2)
  let data ← sliceFrom data 2
  let flags ← beUint16 (← sliceTo data 2)
  let data ← sliceFrom data 2
  return ({ mls with published := published, expires := expires, flags := flags }, data)

/-- `parseDestinationAndHeader` -/
def metaParseDestinationAndHeaderC (mls : MLS) (data : Sl) : Go (Option (MLS × Sl)) := do
  if !metaValidateMinSizeC data.ilen then return none else
  match ← metaParseDestinationFieldC mls data with
  | none => return none
  | some (mls, rem) =>
  if !metaValidateHeaderDataSizeC rem.ilen then return none else
  return some (← metaParseHeaderFieldsC mls rem)

/-! ### offline signature -/

/-- `parseOfflineSignature`; `mls.destination.KeyCertificate.SigningPublicKeyType()` dereferences the
    destination pointer; `uint16(…)` truncates -/
def metaParseOfflineSignatureC (mls : MLS) (data : Sl) : Go (Option (MLS × Sl)) := do
  if !mls.hasOfflineKeys then return some (mls, data) else
  let dest ← deref mls.destination
  let destSigType : Nat := dest.kc.spk % 65536
  match ← readOffSigS data destSigType with
  | none => return none
  | some (offlineSig, rem) => return some ({ mls with offlineSignature := some offlineSig }, rem)

/-! ### options -/

/-- `fatalMappingError`: the `for _, e := range errs` loop (no index expression; structural recursion on
    the slice); `none` = nil -/
def metaFatalMappingErrorC : List MapErrC → Option MapErrC
  | [] => none
  | e :: rest => if isBeyondWarningC e then metaFatalMappingErrorC rest else some e

/-- `parseOptionsMapping` -/
def metaParseOptionsMappingC (mls : MLS) (data : Sl) : Go (Option (MLS × Sl)) := do
  let (mapping, rem, errs) ← readMappingS data
  match metaFatalMappingErrorC errs with
  | some _ => return none
  | none => return some ({ mls with options := mapping }, rem)

/-! ### entries -/

/-- `validateEntryCount`: `true` = no error -/
def metaValidateEntryCountC (numEntries : Int) : Bool := !(decide (numEntries < 1 ∨ numEntries > 16))

/-- `validateEntryMinSize`: `true` = no error -/
def metaValidateEntryMinSizeC (dataLen : Int) : Bool :=
  let minSize : Int := 32 + 1 + 4 + 1 + 2
  !(decide (dataLen < minSize))

/-- `parseEntryFixedFields`: `copy(entry.hash[:], data[:32])`, `data[0]`, `binary.BigEndian.Uint32(data[:4])`,
    `data[0]` and the four re-slicings; `entry.hash` is a `[32]byte`, `entry.hash[:]` a full slice of it -/
def metaParseEntryFixedFieldsC (entry : MetaEntry) (data : Sl) : Go (MetaEntry × Sl) := do
  let hashArr := Sl.ofBytes entry.hash
  let dst ← slice hashArr 0 hashArr.ilen                          -- entry.hash[:]
  let src ← sliceTo data 32                                       -- data[:32]
  let hashArr := copy dst src                                     -- copy(entry.hash[:], data[:32])
  let data ← sliceFrom data 32
  let leaseType ← index data 0
  let data ← sliceFrom data 1
  let expires ← beUint32 (← sliceTo data 4)
  let data ← sliceFrom data 4
  let cost ← index data 0
  let data ← sliceFrom data 1
  return ({ entry with hash := hashArr.data, leaseType := leaseType, expires := expires, cost := cost }, data)

/-- `validateEntryType`: `true` = no error (the `switch` accepts 1, 3, 5) -/
def metaValidateEntryTypeC (leaseType : UInt8) : Bool := leaseType == 1 || leaseType == 3 || leaseType == 5

/-- `parseEntryProperties`; `none` = error -/
def metaParseEntryPropertiesC (entry : MetaEntry) (data : Sl) : Go (Option (MetaEntry × Sl)) := do
  let (properties, rem, errs) ← readMappingS data
  match metaFatalMappingErrorC errs with
  | some _ => return none
  | none => return some ({ entry with properties := properties }, rem)

/-- `parseSingleEntry`: `mls.entries[entryIndex] = entry` is an indexed store (`logParsedEntry` only reads
    fields of the local `entry`) -/
def metaParseSingleEntryC (mls : MLS) (entryIndex : Int) (data : Sl) : Go (Option (MLS × Sl)) := do
  if !metaValidateEntryMinSizeC data.ilen then return none else
  let entry : MetaEntry := {}                                     -- var entry MetaLeaseSetEntry
  let (entry, data) ← metaParseEntryFixedFieldsC entry data
  if !metaValidateEntryTypeC entry.leaseType then return none else
  match ← metaParseEntryPropertiesC entry data with
  | none => return none
  | some (entry, rem) =>
  let entries ← setAt mls.entries entryIndex entry
  return some ({ mls with entries := entries }, rem)

/-- the loop `for i := 0; i < int(numEntries); i++` of `parseEntries`, from index `i`; `fuel` is the
    structural recursion argument (`numEntries - i` suffices).  The third component of the result is a ghost
    counter: the number of loop bodies executed. -/
def metaParseEntriesLoopC : (fuel : Nat) → (i numEntries : Int) → MLS → Sl → Go (Option (MLS × Sl × Nat))
  | 0, _, _, mls, data => return some (mls, data, 0)
  | fuel + 1, i, numEntries, mls, data => do
    if ¬ (i < numEntries) then return some (mls, data, 0) else
    match ← metaParseSingleEntryC mls i data with
    | none => return none
    | some (mls, data) =>
      match ← metaParseEntriesLoopC fuel (i + 1) numEntries mls data with
      | none => return none
      | some (mls, data, n) => return some (mls, data, n + 1)

/-- `parseEntries`; `make([]MetaLeaseSetEntry, numEntries)` has a `uint8` length (never negative) -/
def metaParseEntriesC (mls : MLS) (data : Sl) : Go (Option (MLS × Sl)) := do
  if data.ilen < 1 then return none else
  let numEntries : UInt8 ← index data 0
  let data ← sliceFrom data 1
  if !metaValidateEntryCountC (numEntries.toNat : Int) then return none else
  let mls := { mls with numEntries := numEntries, entries := List.replicate numEntries.toNat ({} : MetaEntry) }
  match ← metaParseEntriesLoopC numEntries.toNat 0 (numEntries.toNat : Int) mls data with
  | none => return none
  | some (mls, data, _) => return some (mls, data)

/-! ### signature -/

/-- `parseSignatureAndFinalize`: both branches dereference a pointer; the final log line only reads
    `numEntries` and `flags` -/
def metaParseSignatureAndFinalizeC (mls : MLS) (data : Sl) : Go (Option (MLS × Sl)) := do
  let sigType : Int ←
    (if mls.hasOfflineKeys && mls.offlineSignature.isSome then do
      let o ← deref mls.offlineSignature
      pure (o.sigtype : Int)
    else do
      let dest ← deref mls.destination
      pure (dest.kc.spk : Int))
  match ← readSigS data sigType with
  | none => return none
  | some (signature, rem) => return some ({ mls with signature := signature }, rem)

/-! ### the reader -/

/-- `meta_leaseset.ReadMetaLeaseSet` (the reader does not call `Validate`) -/
def readMetaS (data : Sl) : Go (Option (MLS × Sl)) := do
  let mls : MLS := {}
  match ← metaParseDestinationAndHeaderC mls data with
  | none => return none
  | some (mls, data) =>
  match ← metaParseOfflineSignatureC mls data with
  | none => return none
  | some (mls, data) =>
  match ← metaParseOptionsMappingC mls data with
  | none => return none
  | some (mls, data) =>
  match ← metaParseEntriesC mls data with
  | none => return none
  | some (mls, data) => metaParseSignatureAndFinalizeC mls data

/-- `ReadMetaLeaseSet` on a caller buffer (slice with `cap = len`) -/
def readMetaC := onBytes readMetaS

end I2P.Checked
